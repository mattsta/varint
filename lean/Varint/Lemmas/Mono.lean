import Varint.Lemmas.Split
/- The encoded length of the split families never decreases as the value grows. -/
namespace Varint

namespace Split

theorem varW_mono (varSub minW : Nat) {a b : Nat} (h : a ≤ b) : varW varSub minW a ≤ varW varSub minW b := by
  have := extLen_mono (v := a - varSub) (w := b - varSub) (by omega)
  unfold varW
  split <;> split <;> omega

theorem varW_le_iff (varSub minW v j : Nat) (hj : minW ≤ j) (hm : 1 ≤ minW) :
    varW varSub minW v ≤ j ↔ v - varSub < 256 ^ j := by
  rw [varW_eq_max, Nat.max_le, extLen_le_iff (by omega)]
  exact and_iff_right hj

theorem lenVar_mono (varSub minW : Nat) {a b : Nat} (h : a ≤ b) : lenVar varSub minW a ≤ lenVar varSub minW b :=
  Nat.add_le_add_left (varW_mono varSub minW h) 1

theorem lenVar_ge (varSub minW v : Nat) : 1 + minW ≤ lenVar varSub minW v :=
  Nat.add_le_add_left (le_varW varSub minW v) 1

theorem S.len_mono {a b : Nat} (h : a ≤ b) : S.len a ≤ S.len b := by
  have hm := lenVar_mono 16446 1 h
  have hw := lenVar_ge 16446 1 b
  unfold S.len
  repeat' split
  all_goals omega

theorem S.len_le_lenVar (v : Nat) : S.len v ≤ lenVar 16446 1 v := by
  have := lenVar_ge 16446 1 v
  unfold S.len
  repeat' split
  all_goals omega

namespace Full
variable {enc : Nat → List Nat} {len : Nat → Nat} {dec : List Nat → Option (Nat × Nat)} {getLen getLenQuick : Nat → Nat}
  {k0 k1 k2 s0 m0 m1 m2 minW : Nat} (h : Full enc len dec getLen getLenQuick k0 k1 k2 s0 m0 m1 m2 minW)
include h

/-- monotone because the steps rise and the var level never takes less than `minW ≥ k2` bytes -/
theorem len_mono {a b : Nat} (hab : a ≤ b) : len a ≤ len b := by
  have := h.k0_lt_k1
  have := h.k1_lt_k2
  have := h.k2_le_minW
  have := lenVar_mono m2 minW hab
  have := lenVar_ge m2 minW b
  rw [h.len_eq, h.len_eq]
  repeat' split
  all_goals omega

theorem len_le_lenVar (v : Nat) : len v ≤ lenVar m2 minW v := by
  have := h.k0_lt_k1
  have := h.k1_lt_k2
  have := h.k2_le_minW
  have := lenVar_ge m2 minW v
  rw [h.len_eq]
  repeat' split
  all_goals omega

end Full

end Split
end Varint
