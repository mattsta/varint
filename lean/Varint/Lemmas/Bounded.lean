import Varint.Model.Bounded
import Varint.Lemmas.Bytes
import Varint.Lemmas.Dict
/- Lemmas for C14: the bounded tagged reader (`getN_no_fault`, `getN_ok_spec`, `getN_short_iff`) and the run counter
   (`runCountAux_ok`); the decoders of Model/Bounded.lean never load outside the declared input, store at most
   the given capacity, and request only bounded allocations (`Safe`, `dictDec_safe`, `bitmapDec_safe`). The Elias decoders' part
   of C14 is in Lemmas/Elias.lean. -/
namespace Varint.Bounded
open Varint.Tagged (GetR getN)

theorem takeExact_none {k : Nat} {bs : List Nat} (h : bs.length < k) : takeExact k bs = none :=
  if_neg (Nat.not_le_of_lt h)

/-! ### the bounded tagged reader -/

/-- the bounded tagged reader never loads a byte at an index ≥ the declared size -/
theorem getN_no_fault (bs : List Nat) (n : Int) (h : n ≤ bs.length) : getN bs n ≠ .fault := by
  intro hf
  have := Tagged.getN_cases bs n
  rw [hf] at this
  obtain ⟨h1, rfl | ⟨b0, rest, rfl, h2, h3⟩⟩ := this
  · exact absurd h (by simp only [List.length_nil]; omega)
  · omega

/-- a successful bounded read: 1 ≤ w ≤ min(n, 9) bytes, all of them really present -/
theorem getN_ok_spec (bs : List Nat) (n : Int) (v w : Nat) (h : getN bs n = .ok v w) :
    1 ≤ w ∧ (w : Int) ≤ n ∧ w ≤ 9 ∧ w ≤ bs.length := by
  obtain ⟨hn, ha⟩ := Tagged.getN_ok h
  cases ha <;> simp only [List.length_cons, List.length_append] <;> omega

theorem getN_ok_len {b0 : Nat} {rest : List Nat} {n : Int} {v l : Nat} (h : getN (b0 :: rest) n = .ok v l) :
    l = Tagged.getLen b0 := by
  unfold Tagged.getLen
  generalize hbs : b0 :: rest = bs at h
  obtain ⟨-, ha⟩ := Tagged.getN_ok h
  cases ha <;> cases hbs
  · rw [if_pos ‹_›]
  · rw [if_neg (by omega), if_pos ‹_›]
  · rfl
  · rw [if_neg (by omega), if_neg (by omega)]; omega

/-- with the declared bytes really present, the reader reports 0 exactly when the announced length
    (a function of the first byte) exceeds the declared size, or the size is < 1 -/
theorem getN_short_iff (b0 : Nat) (rest : List Nat) (n : Int) (h : n ≤ (b0 :: rest).length) (hb : b0 ≤ 255) :
    getN (b0 :: rest) n = .short ↔ n < 1 ∨ n < (Tagged.getLen b0 : Int) := by
  cases hg : getN (b0 :: rest) n with
  | fault => exact absurd hg (getN_no_fault _ n h)
  | short =>
    have hc := Tagged.getN_cases (b0 :: rest) n
    rw [hg] at hc
    obtain h1 | ⟨_, _, he, h2 | h2⟩ := hc
    · exact iff_of_true rfl (.inl h1)
    · cases he; exact iff_of_true rfl (.inr h2)
    · cases he; omega
  | ok v l =>
    have hl := getN_ok_len hg
    have hw := getN_ok_spec _ n v l hg
    exact iff_of_false nofun (by omega)

/-! ### outcomes -/

/-- `r` is no fault, and its value (if it has one) satisfies `Q` -/
def R.Holds {α : Type} (Q : α → Prop) : R α → Prop
  | .fault => False
  | .err => True
  | .ok a => Q a

theorem R.Holds.ne_fault {α : Type} {Q : α → Prop} {r : R α} (h : r.Holds Q) : r ≠ .fault := by
  intro hf; rw [hf] at h; exact h

theorem R.Holds.of_ok {α : Type} {Q : α → Prop} {r : R α} {a : α} (h : r.Holds Q) (hr : r = .ok a) : Q a := by
  rw [hr] at h; exact h

theorem R.holds_of {α : Type} {Q : α → Prop} {r : R α} (h1 : r ≠ .fault) (h2 : ∀ a, r = .ok a → Q a) :
    r.Holds Q := by
  cases r with
  | fault => exact h1 rfl
  | err => exact True.intro
  | ok a => exact h2 a rfl

/-- an outcome with its allocation requests: no fault, a value satisfying `Q`, every request satisfying `P` -/
def Safe {α : Type} (Q : α → Prop) (P : Nat → Prop) (o : R α × List Nat) : Prop :=
  o.1.Holds Q ∧ ∀ a ∈ o.2, P a

theorem safe_err {α : Type} {Q : α → Prop} {P : Nat → Prop} {l : List Nat} (h : ∀ a ∈ l, P a) :
    Safe Q P (.err, l) := ⟨True.intro, h⟩

/-! ### the dictionary decoders -/

theorem tgetB_spec (bs : List Nat) :
    match tgetB bs bs.length with
    | .fault => False
    | .short => True
    | .ok _ w => 1 ≤ w ∧ w ≤ bs.length := by
  have hm : ((min bs.length int32Max : Nat) : Int) ≤ bs.length :=
    Int.ofNat_le.mpr (Nat.min_le_left _ _)
  unfold tgetB
  cases hg : getN bs ((min bs.length int32Max : Nat) : Int) with
  | fault => exact getN_no_fault bs _ hm hg
  | short => exact True.intro
  | ok v w => exact ⟨(getN_ok_spec bs _ v w hg).1, (getN_ok_spec bs _ v w hg).2.2.2⟩

theorem readEntries_spec (k : Nat) (bs : List Nat) :
    (readEntries k bs bs.length).Holds fun x => x.2.2 = x.2.1.length ∧ x.2.1.length ≤ bs.length := by
  induction k generalizing bs with
  | zero => exact ⟨rfl, Nat.le_refl _⟩
  | succ k ih =>
    unfold readEntries
    have hg := tgetB_spec bs
    generalize tgetB bs bs.length = g at hg ⊢
    cases g with
    | fault => exact hg
    | short => exact True.intro
    | ok v w =>
      simp only [] at hg ⊢
      rw [if_neg (by omega)]
      have hr := ih (bs.drop w)
      rw [List.length_drop] at hr
      generalize readEntries k (bs.drop w) (bs.length - w) = r at hr ⊢
      cases r with
      | fault => exact hr
      | err => exact True.intro
      | ok x => exact ⟨hr.1, Nat.le_trans hr.2 (Nat.sub_le _ _)⟩

theorem decIdx_no_fault (d : Array Nat) (dsz w k : Nat) (bs : List Nat) (h : k * w ≤ bs.length) :
    decIdx d dsz w k bs ≠ .fault := by
  induction k generalizing bs with
  | zero => exact nofun
  | succ k ih =>
    rw [Nat.succ_mul] at h
    unfold decIdx
    rw [takeExact_of_le (by omega)]
    simp only []
    split
    · exact nofun
    · have := ih (bs.drop w) (by rw [List.length_drop]; omega)
      split
      · contradiction
      · exact nofun
      · exact nofun

theorem decIdx_length (d : Array Nat) (dsz w k : Nat) (bs vs : List Nat) (h : decIdx d dsz w k bs = .ok vs) :
    vs.length = k := by
  induction k generalizing bs vs with
  | zero => cases h; rfl
  | succ k ih =>
    unfold decIdx at h
    split at h
    · cases h
    · split at h
      · cases h
      · split at h
        · cases h
        · cases h
        · rename_i vs' hvs
          cases h
          rw [List.length_cons, ih _ _ hvs]

/-- both dictionary decoders: no load at or beyond `bufferLen`; `varintDictDecodeInto` stores at most
    `maxValues` elements; every allocation request is bounded by a constant or by the input size -/
theorem dictDec_safe (bs : List Nat) (cap : Option Nat) :
    Safe (fun vs => ∀ c, cap = some c → vs.length ≤ c) (fun a => a ≤ 8 * Dict.maxDict ∨ a ≤ 8 * bs.length)
      (dictDec bs cap) := by
  unfold dictDec dictDecAux
  by_cases h0 : bs.length = 0 ∨ cap = some 0
  · rw [if_pos h0]; exact safe_err nofun
  rw [if_neg h0]
  have hg := tgetB_spec bs
  generalize tgetB bs bs.length = g at hg ⊢
  cases g with
  | fault => exact hg.elim
  | short => exact safe_err nofun
  | ok dsz w =>
    simp only [] at hg ⊢
    rw [if_neg (by omega)]
    by_cases hd : dsz > Dict.maxDict
    · rw [if_pos hd]; exact safe_err nofun
    rw [if_neg hd]
    -- from here on the dictionary has been allocated
    have h8 : ∀ a ∈ [8 * dsz], a ≤ 8 * Dict.maxDict ∨ a ≤ 8 * bs.length := by
      intro a ha
      rw [List.mem_singleton] at ha
      omega
    have hr := readEntries_spec dsz (bs.drop w)
    rw [List.length_drop] at hr
    generalize readEntries dsz (bs.drop w) (bs.length - w) = r at hr ⊢
    cases r with
    | fault => exact hr.elim
    | err => exact safe_err h8
    | ok x =>
      obtain ⟨d, r1, rem1⟩ := x
      obtain ⟨rfl, hr1⟩ : rem1 = r1.length ∧ r1.length ≤ bs.length - w := hr
      simp only []
      have hg2 := tgetB_spec r1
      generalize tgetB r1 r1.length = g2 at hg2 ⊢
      cases g2 with
      | fault => exact hg2.elim
      | short => exact safe_err h8
      | ok cnt w2 =>
        simp only [] at hg2 ⊢
        rw [if_neg (by omega)]
        by_cases hoc : overCap cap cnt = true
        · rw [if_pos hoc]; exact safe_err h8
        rw [if_neg hoc]
        by_cases hc : cnt > (r1.length - w2) / Dict.indexWidth dsz
        · rw [if_pos hc]; exact safe_err h8
        rw [if_neg hc]
        have hcnt : cnt * Dict.indexWidth dsz ≤ r1.length - w2 :=
          (Nat.le_div_iff_mul_le (Dict.indexWidth_pos dsz)).mp (Nat.le_of_not_lt hc)
        refine ⟨R.holds_of (decIdx_no_fault _ _ _ _ _ (by rw [List.length_drop]; exact hcnt)) ?_, ?_⟩
        · intro vs hvs c hcap
          rw [decIdx_length _ _ _ _ _ _ hvs]
          rw [hcap] at hoc
          simpa [overCap] using hoc
        · have hle : cnt ≤ r1.length - w2 :=
            Nat.le_trans (Nat.le_mul_of_pos_right _ (Dict.indexWidth_pos dsz)) hcnt
          intro a ha
          cases cap with
          | none =>
            simp only [allocsOf, List.mem_cons, List.not_mem_nil, or_false] at ha
            omega
          | some c => exact h8 a ha

/-! ### the bitmap deserialiser -/

theorem le32_of_le {bs : List Nat} (h : 4 ≤ bs.length) : le32 bs = .ok (ofLe (bs.take 4)) := by
  unfold le32
  rw [takeExact_of_le h]

/-- the bitmap deserialiser: no load at or beyond `len`, and every request is the 24-byte struct or of a size the
    preceding length check admitted -/
theorem bitmapDec_safe (bs : List Nat) :
    Safe (fun _ => True) (fun a => a ≤ bitmapBytes ∨ a ≤ bs.length) (bitmapDec bs) := by
  unfold bitmapDec
  by_cases hlen : bs.length < 5
  · rw [if_pos hlen]; exact safe_err nofun
  rw [if_neg hlen]
  match bs with
  | [] => exact absurd (Nat.zero_lt_succ 4) hlen
  | ty :: r0 =>
    simp only [List.length_cons] at hlen ⊢
    have h24 : ∀ a ∈ [24], a ≤ bitmapBytes ∨ a ≤ r0.length + 1 := by
      intro a ha
      rw [List.mem_singleton] at ha
      exact Or.inl (by rw [ha]; decide)
    -- a payload of `k` bytes that the length check admitted
    have pay : ∀ (k : Nat) (rest : List Nat) (mk : List Nat → BM), k ≤ rest.length →
        (k ≤ bitmapBytes ∨ rest.length ≤ r0.length) →
        Safe (fun _ => True) (fun a => a ≤ bitmapBytes ∨ a ≤ r0.length + 1)
          (match takeExact k rest with
           | none => (.fault, [24, k])
           | some p => (.ok (mk p), [24, k])) := by
      intro k rest mk hk hb
      rw [takeExact_of_le hk]
      refine ⟨True.intro, fun a ha => ?_⟩
      simp only [List.mem_cons, List.not_mem_nil, or_false] at ha
      rcases ha with rfl | rfl
      · exact Or.inl (by decide)
      · omega
    have hd4 : (r0.drop 4).length ≤ r0.length := by rw [List.length_drop]; omega
    have hd8 : (r0.drop 8).length ≤ r0.length := by rw [List.length_drop]; omega
    rw [le32_of_le (by omega)]
    simp only []
    by_cases t0 : ty = 0
    · rw [if_pos t0]
      by_cases hc : ofLe (r0.take 4) > (r0.drop 4).length / 2
      · rw [if_pos hc]; exact safe_err h24
      · rw [if_neg hc]; exact pay _ _ _ (by omega) (Or.inr hd4)
    rw [if_neg t0]
    by_cases t1 : ty = 1
    · rw [if_pos t1]
      by_cases hc : (r0.drop 4).length < bitmapBytes
      · rw [if_pos hc]; exact safe_err h24
      · rw [if_neg hc]; exact pay _ _ _ (by omega) (Or.inl (Nat.le_refl _))
    rw [if_neg t1]
    by_cases t2 : ty = 2
    · rw [if_pos t2]
      by_cases hc : (r0.drop 4).length < 4
      · rw [if_pos hc]; exact safe_err h24
      rw [if_neg hc, le32_of_le (by omega)]
      simp only []
      by_cases hn : ofLe ((r0.drop 4).take 4) > (r0.drop 8).length / 4
      · rw [if_pos hn]; exact safe_err h24
      · rw [if_neg hn]; exact pay _ _ _ (by omega) (Or.inr hd8)
    · rw [if_neg t2]; exact safe_err h24

/-! ### the RLE run counter -/

/-- the run counter reports a count for any fuel: no load at or beyond `encodedSize`, no error return -/
theorem runCountAux_ok (fuel : Nat) (bs : List Nat) : ∃ r, runCountAux fuel bs bs.length = .ok r := by
  induction fuel generalizing bs with
  | zero => exact ⟨0, rfl⟩
  | succ fuel ih =>
    unfold runCountAux
    by_cases h0 : bs.length = 0
    · rw [if_pos h0]; exact ⟨0, rfl⟩
    rw [if_neg h0]
    have hm : min bs.length int32Max ≤ bs.length := Nat.min_le_left _ _
    cases h1 : getN bs ((min bs.length int32Max : Nat) : Int) with
    | fault => exact absurd h1 (getN_no_fault bs _ (by omega))
    | short => exact ⟨0, rfl⟩
    | ok runLen w1 =>
      have hw1 := getN_ok_spec bs _ runLen w1 h1
      simp only []
      cases h2 : getN (bs.drop w1) (((min bs.length int32Max : Nat) : Int) - (w1 : Int)) with
      | fault => exact absurd h2 (getN_no_fault _ _ (by rw [List.length_drop]; omega))
      | short => exact ⟨0, rfl⟩
      | ok v w2 =>
        simp only []
        by_cases hz : runLen = 0
        · rw [if_pos hz]; exact ⟨0, rfl⟩
        rw [if_neg hz]
        obtain ⟨r, hr⟩ := ih (bs.drop (w1 + w2))
        rw [List.length_drop] at hr
        rw [hr]
        exact ⟨r + 1, rfl⟩
end Varint.Bounded
