import Varint.Model.Chained
import Varint.Lemmas.Bytes
/- Lemmas about the chained (sqlite3) and chained-simple (LEB128 capped at 9) models. -/
namespace Varint

namespace ChainedSimple

theorem encAux_length (fuel i v : Nat) (hf : 9 ≤ i + fuel) (hi : i ≤ 8) :
    (encAux fuel i v).length = min (9 - i) (len7 v) := by
  induction fuel generalizing i v with
  | zero => omega
  | succ fuel ih =>
    unfold encAux
    by_cases h : v ≥ 128 ∧ i < 8
    · rw [if_pos h]
      have := ih (i + 1) (v / 128) (by omega) (by omega)
      rw [List.length_cons, this]
      conv => rhs; rw [len7_eq]
      rw [if_neg (by omega)]
      omega
    · rw [if_neg h]
      have h1 := len7_pos v
      by_cases hv : v < 128
      · rw [len7_eq, if_pos hv]; simp; omega
      · have : i = 8 := by omega
        subst this; simp; omega

theorem encAux_length_pos (fuel i v : Nat) : 1 ≤ (encAux fuel i v).length := by
  cases fuel <;> (unfold encAux; try split) <;> simp

theorem enc_length (v : Nat) : (enc v).length = len v := by
  unfold enc len
  rw [encAux_length 9 0 v (by omega) (by omega)]
  split <;> omega

theorem len_bounds (v : Nat) : 1 ≤ len v ∧ len v ≤ 9 := by
  unfold len; have := len7_pos v; split <;> omega

theorem decAux_encAux (fuel fuel' i v acc : Nat) (rest : List Nat)
    (hf : 9 ≤ i + fuel) (hf' : 10 ≤ i + fuel') (hi : i ≤ 8) (hv : v < 2 ^ (64 - 7 * i)) :
    decAux fuel' i acc (encAux fuel i v ++ rest) = some (acc + v * 2 ^ (7 * i), i + (encAux fuel i v).length) := by
  induction fuel generalizing fuel' i v acc with
  | zero => omega
  | succ fuel ih =>
    obtain ⟨f', rfl⟩ : ∃ f', fuel' = f' + 1 := ⟨fuel' - 1, by omega⟩
    unfold encAux
    by_cases h : v ≥ 128 ∧ i < 8
    · rw [if_pos h]
      have hb : v % 128 + 128 ≥ 128 ∧ i < 8 := ⟨by omega, h.2⟩
      simp only [List.cons_append, decAux, if_pos hb]
      have hv' : v / 128 < 2 ^ (64 - 7 * (i + 1)) := by
        have e : 64 - 7 * i = (64 - 7 * (i + 1)) + 7 := by omega
        rw [e, Nat.pow_add] at hv
        omega
      rw [ih f' (i + 1) (v / 128) _ (by omega) (by omega) (by omega) hv']
      have e1 : (v % 128 + 128) % 128 = v % 128 := by omega
      have e2 : 2 ^ (7 * (i + 1)) = 128 * 2 ^ (7 * i) := by
        rw [show 7 * (i + 1) = 7 * i + 7 by omega, Nat.pow_add]; omega
      rw [e1, e2]
      have e3 : v % 128 * 2 ^ (7 * i) + v / 128 * (128 * 2 ^ (7 * i)) = v * 2 ^ (7 * i) := by
        have := Nat.div_add_mod v 128
        rw [← Nat.mul_assoc, ← Nat.add_mul]
        congr 1; omega
      simp only [List.length_cons]
      congr 2
      · omega
      · omega
    · rw [if_neg h]
      have hv256 : v < 256 := by
        by_cases hv128 : v < 128
        · omega
        · have : i = 8 := by omega
          subst this; simpa using hv
      simp only [List.cons_append, List.nil_append, decAux, Nat.mod_eq_of_lt hv256,
        List.length_cons, List.length_nil]
      rw [if_neg h]

theorem dec_enc (v : Nat) (hv : v < 2 ^ 64) (rest : List Nat) :
    dec (enc v ++ rest) = some (v, (enc v).length) := by
  unfold dec enc
  rw [decAux_encAux 9 10 0 v 0 rest (by omega) (by omega) (by omega) (by simpa using hv)]
  simp

theorem enc_lt (v : Nat) : ∀ b ∈ enc v, b < 256 := by
  unfold enc
  generalize 9 = fuel
  generalize 0 = i
  induction fuel generalizing i v with
  | zero => intro b hb; simp [encAux] at hb; omega
  | succ fuel ih =>
    intro b hb
    unfold encAux at hb
    split at hb
    · simp only [List.mem_cons] at hb
      rcases hb with h | h
      · omega
      · exact ih _ _ b h
    · simp at hb; omega

/-- `n` flagged little-endian 7-bit groups of `x` followed by the remaining quotient as last byte -/
def lebFix : Nat → Nat → List Nat
  | 0, x => [x]
  | n + 1, x => (x % 128 + 128) :: lebFix n (x / 128)

/-- the encoder's output is the fixed-length form for the value's own group count -/
theorem encAux_eq_lebFix (n fuel i x : Nat) (hf : n ≤ fuel) (hin : i + n ≤ 8)
    (hlo : n = 0 ∨ 128 ^ n ≤ x) (hhi : x < 128 ^ (n + 1) ∨ (i + n = 8 ∧ x < 128 ^ n * 256)) :
    encAux fuel i x = lebFix n x := by
  induction n generalizing fuel i x with
  | zero =>
    have hx : x < 256 := by
      simp only [Nat.zero_add, Nat.pow_one, Nat.pow_zero, Nat.one_mul] at hhi; omega
    cases fuel with
    | zero => simp [encAux, lebFix, Nat.mod_eq_of_lt hx]
    | succ f =>
      have hc : ¬ (x ≥ 128 ∧ i < 8) := by
        simp only [Nat.zero_add, Nat.pow_one, Nat.pow_zero, Nat.one_mul] at hhi; omega
      unfold encAux
      rw [if_neg hc, lebFix, Nat.mod_eq_of_lt hx]
  | succ n ih =>
    obtain ⟨f, rfl⟩ : ∃ f, fuel = f + 1 := ⟨fuel - 1, by omega⟩
    have hpos : 0 < 128 ^ n := Nat.pow_pos (by omega)
    have hlo' : 128 ^ n * 128 ≤ x := by
      rcases hlo with h | h
      · omega
      · rwa [Nat.pow_succ] at h
    have hc : x ≥ 128 ∧ i < 8 := by
      constructor
      · generalize 128 ^ n = M at hpos hlo'; omega
      · omega
    unfold encAux
    rw [if_pos hc, lebFix]
    congr 1
    apply ih f (i + 1) (x / 128) (by omega) (by omega)
    · right; generalize 128 ^ n = M at hlo' ⊢; omega
    · rcases hhi with h | ⟨h1, h2⟩
      · left
        rw [Nat.pow_succ] at h
        generalize 128 ^ (n + 1) = M at h ⊢; omega
      · right
        refine ⟨by omega, ?_⟩
        have e : 128 ^ (n + 1) * 256 = 128 ^ n * 256 * 128 := by
          rw [Nat.pow_succ, Nat.mul_assoc, Nat.mul_assoc, Nat.mul_comm 128 256]
        rw [e] at h2
        generalize 128 ^ n * 256 = M at h2 ⊢; omega

/-- unrolled 32-bit encoder = generic encoder for 32-bit values: each arm of `enc32` is the
    fixed-length form for its range of `v` -/
theorem enc32_eq (v : Nat) (hv : v < 2 ^ 32) : enc32 v = enc v := by
  have arm (n : Nat) (hn : n ≤ 4) (hlo : n = 0 ∨ 128 ^ n ≤ v) (hhi : v < 128 ^ (n + 1)) :
      enc v = lebFix n v :=
    encAux_eq_lebFix n 9 0 v (by omega) (by omega) hlo (Or.inl hhi)
  unfold enc32
  split
  · rw [arm 0 (by omega) (by omega) (by omega)]; rfl
  split
  · rw [arm 1 (by omega) (by omega) (by omega)]; rfl
  split
  · rw [arm 2 (by omega) (by omega) (by omega)]
    simp only [lebFix, Nat.div_div_eq_div_mul]
  split
  · rw [arm 3 (by omega) (by omega) (by omega)]
    simp only [lebFix, Nat.div_div_eq_div_mul]
  · rw [arm 4 (by omega) (by omega) (by omega)]
    simp only [lebFix, Nat.div_div_eq_div_mul]

end ChainedSimple

namespace Chained

theorem flagged_length (k x : Nat) : (flagged k x).length = k := by
  induction k with
  | zero => rfl
  | succ k ih => simp [flagged, ih]

theorem groups_eq (n v : Nat) : groups (n + 1) v = flagged n (v / 128) ++ [v % 128] := by
  induction n with
  | zero => simp [groups, flagged]
  | succ n ih =>
    rw [groups, ih, flagged]
    simp only [List.cons_append, List.cons.injEq, and_true]
    rw [Nat.pow_succ, Nat.mul_comm, ← Nat.div_div_eq_div_mul]

theorem decAux_flagged (k fuel i acc x : Nat) (tail : List Nat) (hi : i + k ≤ 8) (hf : k < fuel) :
    decAux fuel i acc (flagged k x ++ tail) = decAux (fuel - k) (i + k) (acc * 128 ^ k + x % 128 ^ k) tail := by
  induction k generalizing fuel i acc with
  | zero => simp [flagged, Nat.mod_one]
  | succ k ih =>
    obtain ⟨f, rfl⟩ : ∃ f, fuel = f + 1 := ⟨fuel - 1, by omega⟩
    have h8 : ¬ i = 8 := by omega
    have hb : ¬ (x / 128 ^ k % 128 + 128 < 128) := by omega
    simp only [flagged, List.cons_append, decAux, if_neg h8, if_neg hb]
    rw [ih f (i + 1) _ (by omega) (by omega)]
    have e : x / 128 ^ k % 128 + 128 - 128 = x / 128 ^ k % 128 := by omega
    have e1 : f + 1 - (k + 1) = f - k := by omega
    have e2 : i + (k + 1) = i + 1 + k := by omega
    have e3 : acc * 128 ^ (k + 1) + x % 128 ^ (k + 1)
        = (acc * 128 + x / 128 ^ k % 128) * 128 ^ k + x % 128 ^ k := by
      rw [Nat.mod_pow_succ (x := x) (b := 128) (k := k), Nat.pow_succ, Nat.add_mul, Nat.mul_assoc,
        Nat.mul_comm 128 (128 ^ k), Nat.mul_comm (x / 128 ^ k % 128)]
      omega
    rw [e, e1, e2, e3]

theorem len_bounds (v : Nat) : 1 ≤ len v ∧ len v ≤ 9 := by
  unfold len; have := len7_pos v; split <;> omega

theorem flagged_lt (k x : Nat) : ∀ b ∈ flagged k x, b < 256 := by
  induction k with
  | zero => simp [flagged]
  | succ k ih =>
    intro b hb
    simp only [flagged, List.mem_cons] at hb
    rcases hb with h | h
    · omega
    · exact ih b h

/-- Both arms of the writer in one form: `len v - 1` flagged groups of the quotient by the last byte's
    base `B`, then the last byte: seven bits of it below nine bytes, all eight at nine. -/
theorem enc_eq (v : Nat) (hv : v < 2 ^ 64) :
    ∃ B, enc v = flagged (len v - 1) (v / B) ++ [v % B] ∧ v / B < 128 ^ (len v - 1) ∧
      ((B = 128 ∧ len v ≤ 8) ∨ (B = 256 ∧ len v = 9)) := by
  have h128 : (128 : Nat) ^ 8 = 2 ^ 56 := rfl
  unfold enc len
  by_cases h : v / 2 ^ 56 % 256 ≠ 0
  · have h9 : 9 ≤ len7 v := by
      apply Nat.le_of_not_lt
      intro hlt
      have := lt_pow_len7 v
      have h2 : 128 ^ len7 v ≤ 128 ^ 8 := Nat.pow_le_pow_right (by omega) (by omega)
      omega
    have hl : (if len7 v > 9 then 9 else len7 v) = 9 := by split <;> omega
    rw [if_pos h, hl]
    exact ⟨256, rfl, by show v / 256 < 128 ^ 8; omega, Or.inr ⟨rfl, rfl⟩⟩
  · have h8 := len7_le_of_lt (v := v) (k := 8) (by omega) (by omega)
    obtain ⟨n, hn⟩ : ∃ n, len7 v = n + 1 := ⟨len7 v - 1, by have := len7_pos v; omega⟩
    have hvn : v < 128 ^ (n + 1) := hn ▸ lt_pow_len7 v
    rw [if_neg h, if_neg (by omega), hn, groups_eq, Nat.add_sub_cancel]
    refine ⟨128, rfl, ?_, Or.inl ⟨rfl, by omega⟩⟩
    rw [Nat.pow_succ] at hvn
    omega

theorem enc_length (v : Nat) (hv : v < 2 ^ 64) : (enc v).length = len v := by
  obtain ⟨B, he, _, _⟩ := enc_eq v hv
  have := len_bounds v
  rw [he, List.length_append, flagged_length, List.length_singleton]
  omega

theorem dec_enc (v : Nat) (hv : v < 2 ^ 64) (rest : List Nat) :
    dec (enc v ++ rest) = some (v, (enc v).length) := by
  obtain ⟨B, he, hq, hB⟩ := enc_eq v hv
  have hl := len_bounds v
  obtain ⟨f, hf⟩ : ∃ f, 9 - (len v - 1) = f + 1 := ⟨9 - (len v - 1) - 1, by omega⟩
  have := Nat.div_add_mod v B
  rw [enc_length v hv]
  unfold dec
  rw [he, List.append_assoc, decAux_flagged (len v - 1) 9 0 0 (v / B) _ (by omega) (by omega),
    Nat.mod_eq_of_lt hq, hf]
  simp only [List.cons_append, List.nil_append, decAux, Nat.zero_mul, Nat.zero_add]
  rcases hB with ⟨rfl, h8⟩ | ⟨rfl, h9⟩
  · rw [if_neg (by omega), if_pos (by omega)]
    congr 2 <;> omega
  · rw [if_pos (by omega)]
    congr 2 <;> omega

theorem enc_lt (v : Nat) : ∀ b ∈ enc v, b < 256 := by
  intro b hb
  unfold enc at hb
  split at hb
  · simp only [List.mem_append, List.mem_singleton] at hb
    rcases hb with h | h
    · exact flagged_lt _ _ b h
    · omega
  · have h1 := len7_pos v
    obtain ⟨n, hn⟩ : ∃ n, len7 v = n + 1 := ⟨len7 v - 1, by omega⟩
    rw [hn, groups_eq] at hb
    simp only [List.mem_append, List.mem_singleton] at hb
    rcases hb with h | h
    · exact flagged_lt _ _ b h
    · omega

end Chained
end Varint
