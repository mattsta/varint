import Varint.Model.BitField
/- testBit characterisations of the bit-field primitives; everything else follows by extensionality. -/
namespace Varint.BF

theorem testBit_false_of_lt {v n j : Nat} (hv : v < 2 ^ n) (hj : n ≤ j) : v.testBit j = false :=
  Nat.testBit_lt_two_pow (Nat.lt_of_lt_of_le hv (Nat.pow_le_pow_right (by omega) hj))

theorem mask_lt (n : Nat) : mask n < 2 ^ n := by
  unfold mask
  have := Nat.two_pow_pos n
  omega

theorem testBit_mask (n i : Nat) : (mask n).testBit i = decide (i < n) := by
  unfold mask; exact Nat.testBit_two_pow_sub_one n i

theorem testBit_mask_shift (n a i : Nat) : (mask n <<< a).testBit i = (decide (a ≤ i) && decide (i - a < n)) := by
  rw [Nat.testBit_shiftLeft, testBit_mask]

theorem testBit_clearField (x a n i : Nat) :
    (clearField x a n).testBit i = (x.testBit i && !(decide (a ≤ i) && decide (i - a < n))) := by
  unfold clearField
  rw [Nat.testBit_xor, Nat.testBit_and, testBit_mask_shift]
  cases x.testBit i <;> cases decide (a ≤ i) <;> cases decide (i - a < n) <;> rfl

theorem testBit_insert (x a n v i : Nat) (hv : v < 2 ^ n) :
    (insert x a n v).testBit i = if a ≤ i ∧ i < a + n then v.testBit (i - a) else x.testBit i := by
  unfold insert
  rw [Nat.testBit_or, testBit_clearField, Nat.testBit_shiftLeft]
  by_cases h1 : a ≤ i
  · by_cases h2 : i - a < n
    · have : a ≤ i ∧ i < a + n := ⟨h1, by omega⟩
      rw [if_pos this]
      simp [h1, h2]
    · have : ¬ (a ≤ i ∧ i < a + n) := by omega
      have hvb : v.testBit (i - a) = false := testBit_false_of_lt hv (by omega)
      rw [if_neg this]
      simp [h1, h2, hvb]
  · have : ¬ (a ≤ i ∧ i < a + n) := by omega
    rw [if_neg this]
    simp [h1]

theorem mask_and_mask (n m : Nat) (h : m ≤ n) : mask n &&& mask m = mask m := by
  apply Nat.eq_of_testBit_eq
  intro j
  rw [Nat.testBit_and, testBit_mask, testBit_mask]
  by_cases hj : j < m
  · simp [hj, show j < n by omega]
  · simp [hj]

/-- a value shifted up to the top of a `W`-bit word and cut to the word keeps its low `m` bits only -/
theorem shl_cut (W v m : Nat) (h : m ≤ W) : v * 2 ^ (W - m) % 2 ^ W = (v &&& mask m) <<< (W - m) := by
  apply Nat.eq_of_testBit_eq
  intro j
  rw [Nat.testBit_mod_two_pow, ← Nat.shiftLeft_eq, Nat.testBit_shiftLeft, Nat.testBit_shiftLeft, Nat.testBit_and,
    testBit_mask]
  by_cases hj : j < W
  · by_cases hl : W - m ≤ j
    · simp [hj, hl, show j - (W - m) < m by omega]
    · simp [hj, hl]
  · simp [hj, show W - m ≤ j by omega, show ¬ j - (W - m) < m by omega]

theorem testBit_extract (x a n j : Nat) : (extract x a n).testBit j = (decide (j < n) && x.testBit (a + j)) := by
  unfold extract
  rw [Nat.testBit_and, Nat.testBit_shiftRight, testBit_mask, Bool.and_comm]

theorem extract_lt (x a n : Nat) : extract x a n < 2 ^ n :=
  Nat.and_lt_two_pow _ (mask_lt n)

theorem extract_insert (x a n v : Nat) (hv : v < 2 ^ n) : extract (insert x a n v) a n = v := by
  apply Nat.eq_of_testBit_eq
  intro j
  rw [testBit_extract, testBit_insert _ _ _ _ _ hv]
  by_cases hj : j < n
  · have : a ≤ a + j ∧ a + j < a + n := ⟨by omega, by omega⟩
    simp [hj, this]
  · simp [hj, testBit_false_of_lt hv (by omega : n ≤ j)]

theorem extract_insert_disjoint (x a n v b m : Nat) (hv : v < 2 ^ n) (hd : b + m ≤ a ∨ a + n ≤ b) :
    extract (insert x a n v) b m = extract x b m := by
  apply Nat.eq_of_testBit_eq
  intro j
  rw [testBit_extract, testBit_extract, testBit_insert _ _ _ _ _ hv]
  by_cases hj : j < m
  · have : ¬ (a ≤ b + j ∧ b + j < a + n) := by omega
    simp [hj, this]
  · simp [hj]

theorem testBit_insert_outside (x a n v i : Nat) (hv : v < 2 ^ n) (ho : i < a ∨ a + n ≤ i) :
    (insert x a n v).testBit i = x.testBit i := by
  rw [testBit_insert _ _ _ _ _ hv]
  have : ¬ (a ≤ i ∧ i < a + n) := by omega
  simp [this]

theorem insert_lt (x a n v W : Nat) (hx : x < 2 ^ W) (hv : v < 2 ^ n) (hw : a + n ≤ W) : insert x a n v < 2 ^ W := by
  apply Nat.lt_pow_two_of_testBit
  intro i hi
  rw [testBit_insert _ _ _ _ _ hv]
  have : ¬ (a ≤ i ∧ i < a + n) := by omega
  simp [this, testBit_false_of_lt hx hi]

/-- dropping the low `hb` bits of an `n`-bit value leaves any `k` bits with `n ≤ hb + k` -/
theorem shiftRight_lt (v n hb : Nat) {k : Nat} (hv : v < 2 ^ n) (h : n ≤ hb + k) : v >>> hb < 2 ^ k := by
  rw [Nat.shiftRight_eq_div_pow]
  apply (Nat.div_lt_iff_lt_mul (Nat.pow_pos (by omega))).mpr
  rw [← Nat.pow_add, Nat.add_comm]
  exact Nat.lt_of_lt_of_le hv (Nat.pow_le_pow_right (by omega) h)

theorem and_mask_lt (v hb : Nat) : v &&& mask hb < 2 ^ hb :=
  Nat.and_lt_two_pow v (mask_lt hb)

theorem insert_split (x p a n v : Nat) (ha : a ≤ n) (hv : v < 2 ^ n) :
    insert x p n v = insert (insert x p a (v &&& mask a)) (p + a) (n - a) (v >>> a) := by
  have hlow : v &&& mask a < 2 ^ a := and_mask_lt v a
  have hhigh : v >>> a < 2 ^ (n - a) := shiftRight_lt v n a hv (by omega)
  apply Nat.eq_of_testBit_eq
  intro i
  rw [testBit_insert _ _ _ _ _ hv, testBit_insert _ _ _ _ _ hhigh, testBit_insert _ _ _ _ _ hlow,
    Nat.testBit_shiftRight, Nat.testBit_and, testBit_mask]
  by_cases h1 : p + a ≤ i ∧ i < p + a + (n - a)
  · rw [if_pos h1, if_pos (by omega), show a + (i - (p + a)) = i - p by omega]
  · rw [if_neg h1]
    by_cases h2 : p ≤ i ∧ i < p + a
    · rw [if_pos h2, if_pos (by omega), decide_eq_true (show i - p < a by omega), Bool.and_true]
    · rw [if_neg h2, if_neg (by omega)]

theorem extract_split (x p a n : Nat) (ha : a ≤ n) :
    extract x p n = extract x p a ||| (extract x (p + a) (n - a)) <<< a := by
  apply Nat.eq_of_testBit_eq
  intro j
  rw [Nat.testBit_or, Nat.testBit_shiftLeft, testBit_extract, testBit_extract, testBit_extract]
  by_cases h1 : j < a
  · simp [h1, show j < n by omega, show ¬ a ≤ j by omega]
  · by_cases h2 : j < n
    · simp [h1, h2, show a ≤ j by omega, show j - a < n - a by omega, show p + a + (j - a) = p + j by omega]
    · simp [h1, h2, show ¬ j - a < n - a by omega]

/-- the conversion to a `W`-bit slot type (`% 2 ^ W`) cuts a field that reaches beyond bit `W` to the part below -/
theorem insert_mod (x a n v W : Nat) (hx : x < 2 ^ W) (ha : a ≤ W) (hn : W ≤ a + n) (hv : v < 2 ^ n) :
    insert x a n v % 2 ^ W = insert x a (W - a) (v &&& mask (W - a)) := by
  apply Nat.eq_of_testBit_eq
  intro j
  rw [Nat.testBit_mod_two_pow, testBit_insert _ _ _ _ _ hv, testBit_insert _ _ _ _ _ (and_mask_lt v _),
    Nat.testBit_and, testBit_mask]
  by_cases hj : j < W
  · by_cases h : a ≤ j
    · rw [if_pos ⟨h, by omega⟩, if_pos ⟨h, by omega⟩]
      simp [hj, show j - a < W - a by omega]
    · rw [if_neg (fun c => h c.1), if_neg (fun c => h c.1)]
      simp [hj]
  · have c : ¬ (a ≤ j ∧ j < a + (W - a)) := by omega
    simp [hj, c, testBit_false_of_lt hx (by omega : W ≤ j)]

end Varint.BF
