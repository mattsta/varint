import Varint.Model.FloatDec
import Varint.Lemmas.Delta
import Varint.Lemmas.Bits
/-
  Array framing of the float codec: `varintFloatDecode` (model `Float.decFull` / `Float.dec`) applied
  to the bytes of `varintFloatEncode` (model `Float.enc`) returns `ds.map (roundTripOne p)` in order.
  Bit packing first, then the three exponent sections and the verbatim specials, the per-value facts (IEEE-754
  layout, `reduce`), the assembly of the decoded values, the decoder on the encoder's layout, the size bound.
-/
namespace Varint.Float
open Varint.Bits

theorem lsb_zero (n : Nat) : lsb n 0 = List.replicate n false := by
  induction n with
  | zero => rfl
  | succ n ih => simp [lsb, ih, List.replicate_succ]

theorem lsb_ofLsb_pad (n : Nat) (bs : List Bool) (h : bs.length ≤ n) :
    lsb n (ofLsb bs) = bs ++ List.replicate (n - bs.length) false := by
  induction n generalizing bs with
  | zero =>
    cases bs with
    | nil => rfl
    | cons b bs => simp at h
  | succ n ih =>
    cases bs with
    | nil => simpa [ofLsb] using lsb_zero (n + 1)
    | cons b bs =>
      have hl : bs.length ≤ n := by simpa using h
      have h2 : ofLsb (b :: bs) / 2 = ofLsb bs := by
        simp only [ofLsb]; cases b <;> simp <;> omega
      have h1 : decide (ofLsb (b :: bs) % 2 = 1) = b := by
        simp only [ofLsb]; cases b <;> simp <;> omega
      simp only [lsb, List.length_cons, List.cons_append]
      rw [h1, h2, ih bs hl, Nat.add_sub_add_right]

theorem bitsOf_packLsb (bs : List Bool) : ∃ pad, bitsOf (packLsb bs) = bs ++ pad := by
  induction h : bs.length using Nat.strongRecOn generalizing bs with
  | _ n ih =>
    rw [packLsb_eq]
    by_cases hb : bs = []
    · rw [if_pos hb, hb]
      exact ⟨[], rfl⟩
    · rw [if_neg hb]
      have hpos : 0 < bs.length := List.length_pos_iff.mpr hb
      obtain ⟨pad, hp⟩ := ih (bs.length - 8) (by omega) (bs.drop 8) (by simp)
      refine ⟨List.replicate (8 - (bs.take 8).length) false ++ pad, ?_⟩
      unfold bitsOf at hp ⊢
      rw [List.flatMap_cons, hp, lsb_ofLsb_pad 8 _ (by rw [List.length_take]; omega)]
      by_cases h8 : 8 ≤ bs.length
      · -- a full byte: no padding inside
        rw [List.length_take, Nat.min_eq_left h8, Nat.sub_self, List.replicate_zero, List.append_nil,
          List.nil_append, ← List.append_assoc, List.take_append_drop]
      · -- the last, partial byte
        rw [List.drop_eq_nil_of_le (by omega), List.take_of_length_le (by omega), List.nil_append, List.append_assoc]

theorem take_bitsOf_packLsb (bs : List Bool) (rest : List Nat) :
    takeExact ((bs.length + 7) / 8) (packLsb bs ++ rest) = some (packLsb bs) ∧
    (packLsb bs ++ rest).drop ((bs.length + 7) / 8) = rest ∧
    (bitsOf (packLsb bs)).take bs.length = bs := by
  obtain ⟨pad, hp⟩ := bitsOf_packLsb bs
  refine ⟨takeExact_append _ _ (packLsb_length bs), List.drop_left' (packLsb_length bs), ?_⟩
  rw [hp, List.take_left' rfl]

theorem unpackBits_flatMap (n : Nat) (vals : List Nat) (pad : List Bool) :
    unpackBits n vals.length (vals.flatMap (lsb n) ++ pad) = vals.map (· % 2 ^ n) := by
  induction vals with
  | nil => rfl
  | cons v vs ih =>
    simp only [List.length_cons, unpackBits, List.flatMap_cons, List.append_assoc, List.map_cons]
    rw [List.take_left' (lsb_length n v), List.drop_left' (lsb_length n v), ofLsb_lsb, ih]

theorem zzInt_lt16 (e : Int) (h1 : -32768 ≤ e) (h2 : e < 32768) : zzInt e < 65536 := by
  unfold zzInt; split <;> omega

theorem zzInt_lt (e : Int) (h1 : -32768 ≤ e) (h2 : e < 32768) : zzInt e < 2 ^ 64 :=
  Nat.lt_trans (zzInt_lt16 e h1 h2) (by decide)

theorem expOfZz_zzInt (e : Int) (h1 : -32768 ≤ e) (h2 : e < 32768) : expOfZz (zzInt e) = e := by
  unfold expOfZz zzInt toI16 toI64 Delta.unzz
  by_cases h0 : 0 ≤ e
  · -- even code: halved, non-negative as an int64
    rw [if_pos h0, if_pos (show (2 * e).toNat % 2 = 0 by omega), if_pos (by omega)]
    omega
  · -- odd code: complemented, negative as an int64
    rw [if_neg h0, if_neg (show ¬ (-2 * e - 1).toNat % 2 = 0 by omega), if_neg (by omega)]
    omega

theorem getField_ffield (u : Nat) (hu : u < 2 ^ 64) (rest : List Nat) :
    Delta.getField (field u ++ rest) = some (u, rest) :=
  Delta.getField_field u hu rest

theorem ffield_length_le (u : Nat) (hu : u < 2 ^ 64) : (field u).length ≤ 9 :=
  Delta.field_le u hu

theorem foldl_min_le (xs : List Int) (a : Int) :
    xs.foldl min a ≤ a ∧ ∀ x ∈ xs, xs.foldl min a ≤ x := by
  induction xs generalizing a with
  | nil => simp
  | cons y ys ih =>
    obtain ⟨h1, h2⟩ := ih (min a y)
    simp only [List.foldl_cons, List.mem_cons]
    refine ⟨by omega, ?_⟩
    intro x hx
    rcases hx with rfl | hx
    · omega
    · exact h2 x hx

theorem le_foldl_max (xs : List Int) (a : Int) :
    a ≤ xs.foldl max a ∧ ∀ x ∈ xs, x ≤ xs.foldl max a := by
  induction xs generalizing a with
  | nil => simp
  | cons y ys ih =>
    obtain ⟨h1, h2⟩ := ih (max a y)
    simp only [List.foldl_cons, List.mem_cons]
    refine ⟨by omega, ?_⟩
    intro x hx
    rcases hx with rfl | hx
    · omega
    · exact h2 x hx

theorem minInt_le (xs : List Int) : ∀ x ∈ xs, minInt xs ≤ x := by
  cases xs with
  | nil => simp
  | cons y ys =>
    obtain ⟨h1, h2⟩ := foldl_min_le ys y
    intro x hx
    simp only [List.mem_cons] at hx
    rcases hx with rfl | hx
    · exact h1
    · exact h2 x hx

theorem le_maxInt (xs : List Int) : ∀ x ∈ xs, x ≤ maxInt xs := by
  cases xs with
  | nil => simp
  | cons y ys =>
    obtain ⟨h1, h2⟩ := le_foldl_max ys y
    intro x hx
    simp only [List.mem_cons] at hx
    rcases hx with rfl | hx
    · exact h1
    · exact h2 x hx

theorem foldl_min_mem (xs : List Int) (a : Int) : xs.foldl min a = a ∨ xs.foldl min a ∈ xs := by
  induction xs generalizing a with
  | nil => exact Or.inl rfl
  | cons y ys ih =>
    simp only [List.foldl_cons, List.mem_cons]
    rcases ih (min a y) with h | h
    · rw [h]; omega
    · exact Or.inr (Or.inr h)

theorem minInt_mem (x : Int) (xs : List Int) : minInt (x :: xs) ∈ x :: xs := by
  rcases foldl_min_mem xs x with h | h
  · exact List.mem_cons.mpr (Or.inl h)
  · exact List.mem_cons_of_mem _ h

def nClear (fs : List Bool) : Nat := (fs.filter (! ·)).length
def nSet (fs : List Bool) : Nat := (fs.filter id).length

theorem nClear_cons_true (fs : List Bool) : nClear (true :: fs) = nClear fs := by simp [nClear]
theorem nClear_cons_false (fs : List Bool) : nClear (false :: fs) = nClear fs + 1 := by simp [nClear]
theorem nSet_cons_true (fs : List Bool) : nSet (true :: fs) = nSet fs + 1 := by simp [nSet]
theorem nSet_cons_false (fs : List Bool) : nSet (false :: fs) = nSet fs := by simp [nSet]

theorem all_id_iff (fs : List Bool) : fs.all id = true ↔ nClear fs = 0 := by
  induction fs with
  | nil => simp [nClear]
  | cons f fs ih =>
    cases f
    · simp [nClear_cons_false]
    · simpa [nClear_cons_true] using ih

/-- induction along the flags for a list holding one entry per clear flag -/
theorem nClear_rec {α : Type} {motive : (fs : List Bool) → (es : List α) → nClear fs = es.length → Prop}
    (nil : motive [] [] rfl)
    (set : ∀ fs es h h', motive fs es h → motive (true :: fs) es h')
    (clear : ∀ fs e es h h', motive fs es h → motive (false :: fs) (e :: es) h') :
    ∀ fs es h, motive fs es h := by
  intro fs
  induction fs with
  | nil =>
    intro es hn
    cases es with
    | nil => exact nil
    | cons e es => simp [nClear] at hn
  | cons f fs ih =>
    intro es hn
    cases f
    · cases es with
      | nil => simp [nClear_cons_false] at hn
      | cons e es =>
        have hn' : nClear fs = es.length := by
          rw [nClear_cons_false, List.length_cons] at hn
          omega
        exact clear fs e es hn' hn (ih es hn')
    · exact set fs es (by rwa [nClear_cons_true] at hn) hn (ih es _)

theorem readIndep_enc (fs : List Bool) (es : List Int) (hn : nClear fs = es.length)
    (hb : ∀ e ∈ es, -32768 ≤ e ∧ e < 32768) (rest : List Nat) :
    readIndep fs ((es.flatMap fun e => field (zzInt e)) ++ rest) = some (es, rest) := by
  induction fs, es, hn using nClear_rec with
  | nil => rfl
  | set fs es _ _ ih => rw [readIndep, ih hb]
  | clear fs e es _ _ ih =>
    have he := hb e (by simp)
    rw [List.flatMap_cons, List.append_assoc, readIndep,
      getField_ffield _ (zzInt_lt e he.1 he.2)]
    simp only []
    rw [ih (fun x hx => hb x (by simp [hx])), expOfZz_zzInt e he.1 he.2]

theorem readCommon_enc (base : Int) (fs : List Bool) (es : List Int) (hn : nClear fs = es.length)
    (hb : ∀ e ∈ es, -32768 ≤ e ∧ e < 32768 ∧ base ≤ e ∧ e - base ≤ 255) (rest : List Nat) :
    readCommon base fs ((es.map fun e => (e - base).toNat % 256) ++ rest) = some (es, rest) := by
  induction fs, es, hn using nClear_rec with
  | nil => rfl
  | set fs es _ _ ih => rw [readCommon, ih hb]
  | clear fs e es _ _ ih =>
    have he := hb e (by simp)
    rw [List.map_cons, List.cons_append, readCommon, ih (fun x hx => hb x (by simp [hx]))]
    have : toI16 (base + (((e - base).toNat % 256 : Nat) : Int)) = e := by
      unfold toI16; omega
    simp only [this]

theorem readDelta_some (pe : Int) (hpe : -1100 ≤ pe ∧ pe ≤ 1100) (fs : List Bool) (es : List Int)
    (hn : nClear fs = es.length) (hb : ∀ e ∈ es, -1100 ≤ e ∧ e ≤ 1100) (rest : List Nat) :
    readDelta (some pe) fs (deltaExps pe es ++ rest) = some (es, rest) := by
  induction fs, es, hn using nClear_rec generalizing pe with
  | nil => rfl
  | set fs es _ _ ih => rw [readDelta, ih pe hpe hb]
  | clear fs e es _ _ ih =>
    have he := hb e (by simp)
    rw [deltaExps, List.append_assoc, readDelta,
      getField_ffield _ (zzInt_lt (e - pe) (by omega) (by omega))]
    simp only []
    rw [expOfZz_zzInt (e - pe) (by omega) (by omega)]
    have : toI16 (pe + (e - pe)) = e := by unfold toI16; omega
    rw [this, ih e he (fun x hx => hb x (by simp [hx]))]

theorem readDelta_none (fs : List Bool) (es : List Int)
    (hn : nClear fs = es.length) (hb : ∀ e ∈ es, -1100 ≤ e ∧ e ≤ 1100) (rest : List Nat) :
    readDelta none fs (encExps 2 es ++ rest) = some (es, rest) := by
  induction fs, es, hn using nClear_rec with
  | nil => rfl
  | set fs es _ _ ih => rw [readDelta, ih hb]
  | clear fs e es hn _ _ =>
    have he := hb e (by simp)
    show readDelta none (false :: fs) ((field (zzInt e) ++ deltaExps e es) ++ rest) = _
    rw [List.append_assoc, readDelta, getField_ffield _ (zzInt_lt e (by omega) (by omega))]
    simp only []
    rw [expOfZz_zzInt e (by omega) (by omega),
      readDelta_some e he fs es hn (fun x hx => hb x (by simp [hx]))]

theorem readSpecials_enc (fs : List Bool) (sps : List Nat) (hn : nSet fs = sps.length)
    (hb : ∀ v ∈ sps, v < 2 ^ 64) (rest : List Nat) :
    readSpecials fs (sps.flatMap (leBytes 8) ++ rest) = some (sps, rest) := by
  induction fs generalizing sps with
  | nil =>
    cases sps with
    | nil => rfl
    | cons v vs => simp [nSet] at hn
  | cons f fs ih =>
    cases f
    · rw [nSet_cons_false] at hn
      rw [readSpecials, ih sps hn hb]
    · cases sps with
      | nil => simp [nSet_cons_true] at hn
      | cons v vs =>
        rw [nSet_cons_true, List.length_cons] at hn
        have hv := hb v (by simp)
        rw [List.flatMap_cons, List.append_assoc, readSpecials,
          takeExact_append _ _ (leBytes_length 8 v)]
        simp only []
        rw [List.drop_left' (leBytes_length 8 v), ih vs (by omega) (fun x hx => hb x (by simp [hx])),
          ofLe_leBytes_of_lt (by omega)]

theorem frac_lt (b : Nat) : frac b < 2 ^ 52 := Nat.mod_lt _ (by decide)

theorem expField_lt (b : Nat) : expField b < 2048 := Nat.mod_lt _ (by decide)

theorem signOf_lt (b : Nat) : signOf b < 2 := Nat.mod_lt _ (by decide)

theorem fields_eq (b : Nat) (hb : b < 2 ^ 64) : signOf b * 2 ^ 63 + expField b * 2 ^ 52 + frac b = b := by
  unfold signOf expField frac
  omega

theorem fields_mk (s E f : Nat) (hs : s < 2) (hE : E < 2048) (hf : f < 2 ^ 52) :
    signOf (s * 2 ^ 63 + E * 2 ^ 52 + f) = s ∧ expField (s * 2 ^ 63 + E * 2 ^ 52 + f) = E ∧
    frac (s * 2 ^ 63 + E * 2 ^ 52 + f) = f := by
  unfold signOf expField frac
  omega

theorem mantBits_cases (p : Nat) : mantBits p = 52 ∨ mantBits p = 23 ∨ mantBits p = 10 ∨ mantBits p = 4 := by
  unfold mantBits; split <;> simp

/-- rounding to `mb` significand bits, 1 ≤ mb ≤ 51: the significand moves by at most half a unit of the kept
    precision; on a carry the value becomes exactly 2^(e+1). `m` original significand, `s = 53 - mb` dropped bits. -/
theorem reduce_spec (mb : Nat) (h1 : 1 ≤ mb) (h51 : mb ≤ 51) (b : Nat) :
    let s := 53 - mb
    let m := frac b + 2 ^ 52
    let e : Int := (expField b : Int) - 1023
    let r := reduce mb b
    ((r.1 = e ∧ 2 ^ (mb - 1) ≤ r.2 ∧ r.2 < 2 ^ mb ∧
        (r.2 * 2 ^ s ≤ m + 2 ^ (s - 1) ∧ m ≤ r.2 * 2 ^ s + 2 ^ (s - 1))) ∨
     (r.1 = e + 1 ∧ r.2 = 2 ^ (mb - 1) ∧ 2 ^ 53 ≤ m + 2 ^ (s - 1))) ∧
    2 ^ (s - 1) * 2 ^ mb ≤ m := by
  have hfr := frac_lt b
  -- mb = k + 1 kept bits, 53 - mb = j + 1 dropped bits; K = 2^k, H = 2^j: half a unit of the kept precision
  obtain ⟨k, rfl⟩ : ∃ k, mb = k + 1 := ⟨mb - 1, by omega⟩
  obtain ⟨j, hj⟩ : ∃ j, 53 - (k + 1) = j + 1 := ⟨51 - k, by omega⟩
  have hKH : 2 * (2 ^ k * 2 ^ j) = 2 ^ 52 := by
    rw [← Nat.pow_add, ← Nat.pow_succ']
    congr 1
    omega
  have hH : 0 < 2 ^ j := Nat.pow_pos (by decide)
  have hK : 0 < 2 ^ k := Nat.pow_pos (by decide)
  simp only [reduce, hj, Nat.add_sub_cancel, Nat.pow_succ, if_neg (show ¬ k + 1 = 52 by omega)]
  generalize 2 ^ k = K at *
  generalize 2 ^ j = H at *
  generalize frac b = f at *
  generalize ht : (f + 2 ^ 52 + H) / (H * 2) = t
  have d1 : t * (H * 2) ≤ f + 2 ^ 52 + H := ht ▸ Nat.div_mul_le_self _ _
  have d2 : f + 2 ^ 52 + H < H * 2 * (t + 1) := ht ▸ Nat.lt_mul_div_succ _ (by omega)
  have e1 : t * (H * 2) = 2 * (t * H) := by ac_rfl
  have e2 : H * 2 * (t + 1) = 2 * (t * H) + 2 * H := by rw [Nat.mul_add, Nat.mul_one]; ac_rfl
  have e3 : H * (K * 2) = 2 * (K * H) := by ac_rfl
  -- K ≤ t ≤ 2K, by comparing multiples of H
  have hlo : K ≤ t := by
    rcases Nat.lt_or_ge t K with hlt | hge
    · have := Nat.mul_le_mul_right H hlt
      rw [Nat.succ_mul] at this
      omega
    · exact hge
  have hhi : t ≤ K * 2 := by
    rcases Nat.lt_or_ge (K * 2) t with hlt | hge
    · have := Nat.mul_le_mul_right H hlt
      rw [Nat.succ_mul, Nat.mul_right_comm] at this
      omega
    · exact hge
  refine ⟨?_, by omega⟩
  by_cases hc : t < K * 2
  · rw [Nat.div_eq_of_lt hc, if_neg (by decide)]
    dsimp only
    exact Or.inl ⟨rfl, hlo, hc, by omega, by omega⟩
  · -- carry: t = 2K exactly
    have htK : t = K * 2 := by omega
    have e4 : K * 2 * (H * 2) = 2 * (2 * (K * H)) := by ac_rfl
    rw [htK] at d1
    rw [htK, Nat.div_self (by omega), if_pos (by decide), Nat.mul_div_cancel _ (by decide)]
    exact Or.inr ⟨rfl, rfl, by omega⟩
theorem reduce_bounds (mb : Nat) (hmb : mb = 52 ∨ mb = 23 ∨ mb = 10 ∨ mb = 4) (b : Nat)
    (hn : isSpecial b = false) :
    -1022 ≤ (reduce mb b).1 ∧ (reduce mb b).1 ≤ 1024 ∧ (reduce mb b).2 < 2 ^ mb := by
  have hexp : expField b ≠ 2047 ∧ expField b ≠ 0 := by
    simp [isSpecial] at hn; exact hn
  have hfr := frac_lt b
  have hex := expField_lt b
  rcases hmb with rfl | hmb
  · simp only [reduce, if_true]
    omega
  · have h := (reduce_spec mb (by omega) (by omega) b).1
    rcases hmb with rfl | rfl | rfl
    all_goals
      simp only [Nat.reduceSub, Nat.reducePow] at h
      omega
theorem readExps_enc (mode : Nat) (hm : mode ≤ 2) (fs : List Bool) (es : List Int)
    (hn : nClear fs = es.length) (hb : ∀ e ∈ es, -1022 ≤ e ∧ e ≤ 1024) (rest : List Nat) :
    readExps (effectiveMode mode es) fs (encExps (effectiveMode mode es) es ++ rest) = some (es, rest) := by
  have hb16 : ∀ e ∈ es, -32768 ≤ e ∧ e < 32768 := fun e he => by have := hb e he; omega
  have hb11 : ∀ e ∈ es, -1100 ≤ e ∧ e ≤ 1100 := fun e he => by have := hb e he; omega
  have h0 : readExps 0 fs (encExps 0 es ++ rest) = some (es, rest) := by
    unfold readExps; rw [if_pos rfl]
    exact readIndep_enc fs es hn hb16 rest
  by_cases hm1 : mode = 1
  · subst hm1
    by_cases hbig : es ≠ [] ∧ maxInt es - minInt es > 255
    · have : effectiveMode 1 es = 0 := by unfold effectiveMode; rw [if_pos ⟨rfl, hbig⟩]
      rw [this]; exact h0
    · have : effectiveMode 1 es = 1 := by
        unfold effectiveMode; rw [if_neg (fun h => hbig h.2)]
      rw [this]
      unfold readExps
      rw [if_neg (by decide), if_pos rfl]
      cases es with
      | nil =>
        have : fs.all id = true := (all_id_iff fs).2 (by simpa using hn)
        rw [if_pos this]; rfl
      | cons e0 es =>
        have hnall : ¬ fs.all id = true := by
          intro h; have := (all_id_iff fs).1 h; rw [this] at hn; simp at hn
        rw [if_neg hnall]
        have hspread : maxInt (e0 :: es) - minInt (e0 :: es) ≤ 255 := by
          apply Int.not_lt.1
          intro h; exact hbig ⟨by simp, h⟩
        have hmin := minInt_le (e0 :: es)
        have hmax := le_maxInt (e0 :: es)
        have hlow := hb _ (minInt_mem e0 es)
        show (match Delta.getField ((field (zzInt (minInt (e0 :: es))) ++
            (e0 :: es).map (fun e => (e - minInt (e0 :: es)).toNat % 256)) ++ rest) with
          | none => none
          | some (z, r) => readCommon (expOfZz z) fs r) = _
        rw [List.append_assoc, getField_ffield _ (zzInt_lt _ (by omega) (by omega))]
        simp only []
        rw [expOfZz_zzInt _ (by omega) (by omega)]
        apply readCommon_enc _ fs _ hn
        intro e he
        have := hb e he; have := hmin e he; have := hmax e he
        omega
  · have heff : effectiveMode mode es = mode := by
      unfold effectiveMode; rw [if_neg (fun h => hm1 h.1)]
    rw [heff]
    by_cases hm0 : mode = 0
    · subst hm0; exact h0
    · have : mode = 2 := by omega
      subst this
      unfold readExps
      rw [if_neg (by decide), if_neg (by decide)]
      exact readDelta_none fs es hn hb11 rest

def expsOf (mb : Nat) (ds : List Nat) : List Int :=
  ((ds.filter fun b => !isSpecial b).map (reduce mb)).map (·.1)
def mantsOf (mb : Nat) (ds : List Nat) : List Nat :=
  ((ds.filter fun b => !isSpecial b).map (reduce mb)).map (·.2)

theorem expsOf_cons (mb d : Nat) (ds : List Nat) :
    expsOf mb (d :: ds) = if isSpecial d then expsOf mb ds else (reduce mb d).1 :: expsOf mb ds := by
  unfold expsOf
  cases h : isSpecial d <;> simp [h]

theorem mantsOf_cons (mb d : Nat) (ds : List Nat) :
    mantsOf mb (d :: ds) = if isSpecial d then mantsOf mb ds else (reduce mb d).2 :: mantsOf mb ds := by
  unfold mantsOf
  cases h : isSpecial d <;> simp [h]

theorem normals_length (ds : List Nat) : (ds.filter fun b => !isSpecial b).length = nClear (ds.map isSpecial) := by
  unfold nClear
  rw [List.filter_map, List.length_map]
  rfl

theorem specials_length (ds : List Nat) : (ds.filter isSpecial).length = nSet (ds.map isSpecial) := by
  unfold nSet
  rw [List.filter_map, List.length_map]
  rfl

theorem expsOf_length (mb : Nat) (ds : List Nat) : (expsOf mb ds).length = nClear (ds.map isSpecial) := by
  rw [expsOf, List.length_map, List.length_map, normals_length]

theorem mantsOf_length (mb : Nat) (ds : List Nat) : (mantsOf mb ds).length = nClear (ds.map isSpecial) := by
  rw [mantsOf, List.length_map, List.length_map, normals_length]

theorem reduced_bounds (mb : Nat) (hmb : mb = 52 ∨ mb = 23 ∨ mb = 10 ∨ mb = 4) (ds : List Nat) :
    ∀ r ∈ (ds.filter fun b => !isSpecial b).map (reduce mb), -1022 ≤ r.1 ∧ r.1 ≤ 1024 ∧ r.2 < 2 ^ mb := by
  intro r hr
  obtain ⟨b, hb, rfl⟩ := List.mem_map.mp hr
  exact reduce_bounds mb hmb b (by simpa using (List.mem_filter.mp hb).2)

theorem expsOf_bounds (mb : Nat) (hmb : mb = 52 ∨ mb = 23 ∨ mb = 10 ∨ mb = 4) (ds : List Nat) :
    ∀ e ∈ expsOf mb ds, -1022 ≤ e ∧ e ≤ 1024 := by
  intro e he
  obtain ⟨r, hr, rfl⟩ := List.mem_map.mp he
  have := reduced_bounds mb hmb ds r hr
  omega

theorem mantsOf_bounds (mb : Nat) (hmb : mb = 52 ∨ mb = 23 ∨ mb = 10 ∨ mb = 4) (ds : List Nat) :
    ∀ t ∈ mantsOf mb ds, t < 2 ^ mb := by
  intro t ht
  obtain ⟨r, hr, rfl⟩ := List.mem_map.mp ht
  exact (reduced_bounds mb hmb ds r hr).2.2

theorem assemble_false (mb : Nat) (fs : List Bool) (s : Bool) (ss : List Bool) (e : Int) (es : List Int)
    (m : Nat) (ms sps : List Nat) :
    assemble mb (false :: fs) (s :: ss) (e :: es) (m :: ms) sps =
      compose mb (if s then 1 else 0) e m :: assemble mb fs ss es ms sps := rfl

theorem assemble_true (mb : Nat) (fs : List Bool) (s : Bool) (ss : List Bool) (es : List Int)
    (ms : List Nat) (v : Nat) (sps : List Nat) :
    assemble mb (true :: fs) (s :: ss) es ms (v :: sps) = v :: assemble mb fs ss es ms sps := rfl

theorem assemble_enc (p : Nat) (ds : List Nat) :
    assemble (mantBits p) (ds.map isSpecial) (ds.map fun b => decide (signOf b = 1))
      (expsOf (mantBits p) ds) (mantsOf (mantBits p) ds) (ds.filter isSpecial) =
    ds.map (roundTripOne p) := by
  induction ds with
  | nil => rfl
  | cons d ds ih =>
    rw [expsOf_cons, mantsOf_cons, List.filter_cons, List.map_cons, List.map_cons, List.map_cons]
    cases h : isSpecial d
    · simp only [Bool.false_eq_true, if_false]
      rw [assemble_false, ih]
      have hs : (if decide (signOf d = 1) = true then 1 else 0) = signOf d := by
        have := signOf_lt d
        by_cases h1 : signOf d = 1
        · simp [h1]
        · simp [h1]; omega
      rw [hs]
      simp only [roundTripOne, h, Bool.false_eq_true, if_false]
    · simp only [if_true]
      rw [assemble_true, ih]
      simp only [roundTripOne, h, if_true]

theorem enc_eq (p mode : Nat) (ds : List Nat) (hne : ds ≠ []) :
    enc p mode ds =
      p :: expBits p :: mantBits p :: effectiveMode mode (expsOf (mantBits p) ds) ::
        (packLsb (ds.map isSpecial) ++ (packLsb (ds.map fun b => decide (signOf b = 1)) ++
          (encExps (effectiveMode mode (expsOf (mantBits p) ds)) (expsOf (mantBits p) ds) ++
            (packLsb ((mantsOf (mantBits p) ds).flatMap (lsb (mantBits p))) ++
              (ds.filter isSpecial).flatMap (leBytes 8))))) := by
  unfold enc
  rw [if_neg hne]
  simp only [expsOf, mantsOf, List.flatMap_map, List.append_assoc, List.cons_append, List.nil_append]

theorem map_mod_of_lt (n : Nat) (vals : List Nat) (h : ∀ t ∈ vals, t < 2 ^ n) : vals.map (· % 2 ^ n) = vals := by
  induction vals with
  | nil => rfl
  | cons v vs ih =>
    rw [List.map_cons, Nat.mod_eq_of_lt (h v (by simp)), ih (fun t ht => h t (by simp [ht]))]

/-- the decoder on any buffer with the encoder's layout, for an arbitrary exponent section that `readExps`
    reads back -/
theorem decFull_layout (pr eb mb mode : Nat) (flags signs : List Bool) (expB : List Nat) (exps : List Int)
    (mants sps rest : List Nat)
    (hcount : flags.length ≠ 0) (hlen : flags.length * 8 < 2 ^ 64) (hs : signs.length = flags.length)
    (hexp : ∀ r, readExps mode flags (expB ++ r) = some (exps, r))
    (hmb : mb ≤ 64) (hml : mants.length = nClear flags) (hmlt : ∀ t ∈ mants, t < 2 ^ mb)
    (hsl : nSet flags = sps.length) (hsp : ∀ v ∈ sps, v < 2 ^ 64) :
    decFull (pr :: eb :: mb :: mode :: (packLsb flags ++ (packLsb signs ++ (expB ++
      (packLsb (mants.flatMap (lsb mb)) ++ (sps.flatMap (leBytes 8) ++ rest)))))) flags.length =
    some (assemble mb flags signs exps mants sps, rest) := by
  have hml' : (flags.filter (! ·)).length = mants.length := hml.symm
  unfold decFull
  rw [if_neg hcount]
  simp only []
  rw [if_neg (by omega)]
  obtain ⟨f1, f2, f3⟩ := take_bitsOf_packLsb flags (packLsb signs ++ (expB ++
      (packLsb (mants.flatMap (lsb mb)) ++ (sps.flatMap (leBytes 8) ++ rest))))
  rw [f1]
  simp only []
  rw [f2, f3]
  obtain ⟨g1, g2, g3⟩ := take_bitsOf_packLsb signs (expB ++
      (packLsb (mants.flatMap (lsb mb)) ++ (sps.flatMap (leBytes 8) ++ rest)))
  rw [hs] at g1 g2 g3
  rw [g1]
  simp only []
  rw [g2, g3, hexp]
  simp only []
  rw [if_neg (by omega), hml']
  obtain ⟨m1, m2, _⟩ := take_bitsOf_packLsb (mants.flatMap (lsb mb)) (sps.flatMap (leBytes 8) ++ rest)
  rw [flatMap_lsb_length] at m1 m2
  rw [m1]
  simp only []
  rw [m2, readSpecials_enc flags sps hsl hsp rest]
  simp only []
  obtain ⟨pad, hpad⟩ := bitsOf_packLsb (mants.flatMap (lsb mb))
  rw [hpad, unpackBits_flatMap, map_mod_of_lt mb mants hmlt]

/-- `varintFloatDecode` on the output of `varintFloatEncode` (followed by anything) yields every
    value's `roundTripOne` in the original order and consumes exactly the encoder's bytes.
    `ds.length < 2^61` is the C's own `size_mul_overflow(count, 8)` refusal. -/
theorem decFull_enc (p mode : Nat) (hm : mode ≤ 2) (ds : List Nat) (hne : ds ≠ [])
    (hd : ∀ d ∈ ds, d < 2 ^ 64) (hlen : ds.length < 2 ^ 61) (rest : List Nat) :
    decFull (enc p mode ds ++ rest) ds.length = some (ds.map (roundTripOne p), rest) := by
  have hmb := mantBits_cases p
  have hc : (ds.map isSpecial).length ≠ 0 := by
    rw [List.length_map]; intro h; exact hne (List.length_eq_zero_iff.1 h)
  have hexpb := expsOf_bounds (mantBits p) hmb ds
  have key := decFull_layout p (expBits p) (mantBits p) (effectiveMode mode (expsOf (mantBits p) ds))
    (ds.map isSpecial) (ds.map fun b => decide (signOf b = 1))
    (encExps (effectiveMode mode (expsOf (mantBits p) ds)) (expsOf (mantBits p) ds))
    (expsOf (mantBits p) ds) (mantsOf (mantBits p) ds) (ds.filter isSpecial) rest hc
    (by rw [List.length_map]; omega) (by simp)
    (fun r => readExps_enc mode hm _ _ (expsOf_length _ ds).symm hexpb r)
    (by rcases hmb with h | h | h | h <;> omega) (mantsOf_length _ ds)
    (mantsOf_bounds _ hmb ds) (specials_length ds).symm
    (fun v hv => hd v (List.mem_filter.1 hv).1)
  rw [List.length_map, assemble_enc] at key
  rw [enc_eq p mode ds hne]
  simp only [List.cons_append, List.append_assoc]
  exact key

theorem dec_enc (p mode : Nat) (hm : mode ≤ 2) (ds : List Nat) (hne : ds ≠ [])
    (hd : ∀ d ∈ ds, d < 2 ^ 64) (hlen : ds.length < 2 ^ 61) (rest : List Nat) :
    dec (enc p mode ds ++ rest) ds.length = some (ds.map (roundTripOne p)) := by
  unfold dec
  rw [decFull_enc p mode hm ds hne hd hlen rest]
  rfl

/-- at 2^61 values and beyond the C decoder refuses (`size_mul_overflow`), so the bound is needed -/
theorem dec_refuses_huge (bs : List Nat) (count : Nat) (h : 2 ^ 61 ≤ count) : dec bs count = none := by
  unfold dec decFull
  rw [if_neg (by omega)]
  split
  · rw [if_pos (by omega)]; rfl
  · rfl

theorem ffield_length_le3 (u : Nat) (hu : u < 65536) : (field u).length ≤ 3 := by
  have := extLen_le_of_lt (v := u) (k := 2) (by omega) (by simpa using hu)
  simp only [field, List.length_cons, leBytes_length]
  omega

theorem deltaExps_length_le (pe : Int) (hpe : -1100 ≤ pe ∧ pe ≤ 1100) (es : List Int)
    (hb : ∀ e ∈ es, -1100 ≤ e ∧ e ≤ 1100) : (deltaExps pe es).length ≤ 3 * es.length := by
  induction es generalizing pe with
  | nil => simp [deltaExps]
  | cons e es ih =>
    have he := hb e (by simp)
    have h1 := ffield_length_le3 _ (zzInt_lt16 (e - pe) (by omega) (by omega))
    have h2 := ih e he (fun x hx => hb x (by simp [hx]))
    simp only [deltaExps, List.length_append, List.length_cons]
    omega

theorem indepExps_length_le (es : List Int) (hb : ∀ e ∈ es, -1100 ≤ e ∧ e ≤ 1100) :
    (es.flatMap fun e => field (zzInt e)).length ≤ 3 * es.length := by
  induction es with
  | nil => simp
  | cons e es ih =>
    have he := hb e (by simp)
    have h1 := ffield_length_le3 _ (zzInt_lt16 e (by omega) (by omega))
    have h2 := ih (fun x hx => hb x (by simp [hx]))
    simp only [List.flatMap_cons, List.length_append, List.length_cons]
    omega

theorem encExps_length_le (m : Nat) (es : List Int) (hb : ∀ e ∈ es, -1022 ≤ e ∧ e ≤ 1024) :
    (encExps m es).length ≤ 4 * es.length := by
  have hb11 : ∀ e ∈ es, -1100 ≤ e ∧ e ≤ 1100 := fun e he => by have := hb e he; omega
  unfold encExps
  split
  · have := indepExps_length_le es hb11; omega
  · cases es with
    | nil => simp
    | cons e0 es =>
      have hlow := hb _ (minInt_mem e0 es)
      have h1 := ffield_length_le3 _ (zzInt_lt16 (minInt (e0 :: es)) (by omega) (by omega))
      simp only [List.length_append, List.length_map, List.length_cons] at h1 ⊢
      omega
  · cases es with
    | nil => simp
    | cons e0 es =>
      have h0 := hb11 e0 (by simp)
      have h1 := ffield_length_le3 _ (zzInt_lt16 e0 (by omega) (by omega))
      have h2 := deltaExps_length_le e0 h0 es (fun x hx => hb11 x (by simp [hx]))
      simp only [List.length_append, List.length_cons] at h1 ⊢
      omega

theorem nClear_add_nSet (fs : List Bool) : nClear fs + nSet fs = fs.length := by
  induction fs with
  | nil => rfl
  | cons f fs ih =>
    cases f
    · rw [nClear_cons_false, nSet_cons_false, List.length_cons]; omega
    · rw [nClear_cons_true, nSet_cons_true, List.length_cons]; omega

/-- `varintFloatMaxEncodedSize` really bounds the encoder's output -/
theorem enc_length_le (p mode : Nat) (ds : List Nat) : (enc p mode ds).length ≤ maxSize ds.length p := by
  by_cases hne : ds = []
  · subst hne; simp [enc, maxSize]
  · have hmb := mantBits_cases p
    have hc : ds.length ≠ 0 := fun h => hne (List.length_eq_zero_iff.1 h)
    have hE := encExps_length_le (effectiveMode mode (expsOf (mantBits p) ds)) (expsOf (mantBits p) ds)
      (expsOf_bounds (mantBits p) hmb ds)
    have hsum := nClear_add_nSet (ds.map isSpecial)
    rw [List.length_map] at hsum
    rw [enc_eq p mode ds hne]
    unfold maxSize
    rw [if_neg hc]
    simp only [List.length_cons, List.length_append, packLsb_length, List.length_map,
      flatMap_lsb_length, length_flatMap_leBytes, mantsOf_length, specials_length]
    rw [expsOf_length] at hE
    generalize nClear (ds.map isSpecial) = nn at *
    generalize nSet (ds.map isSpecial) = ns at *
    generalize (encExps _ _).length = le at *
    rcases hmb with h | h | h | h <;> rw [h] <;> omega

/-! ### non-vacuity: a mixed array (1.0, -0, NaN with payload, subnormal, a value whose rounding
    carries, -pi, the largest double (rounds to infinity), the smallest normal, -inf); in COMMON mode
    the exponent spread exceeds 255, so the encoder falls back to INDEPENDENT -/
def mixedSample : List Nat := [0x3FF0000000000000, 0x8000000000000000, 0x7FF8000000000001, 1, 0x3FFFFFFFFFFF2108,
  0xC00921FB54442D18, 0x7FEFFFFFFFFFFFFF, 0x0010000000000000, 0xFFF0000000000000]
example : (enc 1 1 mixedSample).take 4 = [1, 8, 23, 0] := by decide
example : dec (enc 1 1 mixedSample) mixedSample.length = some (mixedSample.map (roundTripOne 1)) := by decide
example : dec (enc 3 2 mixedSample) mixedSample.length = some (mixedSample.map (roundTripOne 3)) := by decide
example : dec (enc 0 0 mixedSample) mixedSample.length = some mixedSample := by decide
example : (enc 2 1 [0x3FF0000000000000, 0, 0x4059000000000000]).take 4 = [2, 8, 10, 1] := by decide
example : dec (enc 2 1 [0x3FF0000000000000, 0, 0x4059000000000000]) 3 =
    some [0x3FF0000000000000, 0, 0x4059000000000000] := by decide

end Varint.Float
