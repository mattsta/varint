import Varint.Model.Group
import Varint.Lemmas.Bytes
import Varint.Lemmas.List
/- Lemmas about the varintGroup model. Core Lean only. -/
namespace Varint.Group

def Ok (xs : List Nat) : Prop := 1 ≤ xs.length ∧ xs.length ≤ 64 ∧ ∀ x ∈ xs, x < 2 ^ 64

theorem normW_cases (x : Nat) : normW x = 1 ∨ normW x = 2 ∨ normW x = 4 ∨ normW x = 8 := by
  unfold normW
  simp only
  repeat' split
  all_goals omega

theorem normW_pos (x : Nat) : 1 ≤ normW x := by
  rcases normW_cases x with h | h | h | h <;> omega

theorem normW_le_8 (x : Nat) : normW x ≤ 8 := by
  rcases normW_cases x with h | h | h | h <;> omega

theorem extLen_le_normW {x : Nat} (h : x < 2 ^ 64) : extLen x ≤ normW x := by
  have h8 := extLen_le_8 h
  unfold normW
  simp only
  repeat' split
  all_goals omega

theorem lt_pow_normW {x : Nat} (h : x < 2 ^ 64) : x < 256 ^ normW x :=
  lt_pow_of_extLen_le (extLen_le_normW h)

theorem code_lt (w : Nat) : code w < 4 := by
  unfold code
  repeat' split
  all_goals omega

theorem width_code_normW (x : Nat) : width (code (normW x)) = normW x := by
  rcases normW_cases x with h | h | h | h <;> rw [h] <;> rfl

theorem packCodes_length (cs : List Nat) : (packCodes cs).length = bitmapSize cs.length := by
  induction cs using packCodes.induct with
  | case5 a b c d t ih =>
    simp only [packCodes, List.length_cons, ih, bitmapSize]
    omega
  | _ => simp [packCodes, bitmapSize]

/-- up to four 2-bit codes as one base-4 number, the first code in the lowest digit: a byte of the bitmap -/
def packByte : List Nat → Nat
  | [] => 0
  | c :: cs => c + 4 * packByte cs

theorem packByte_digit (cs : List Nat) (hc : ∀ c ∈ cs, c < 4) (i : Nat) :
    packByte cs / 4 ^ i % 4 = cs.getD i 0 := by
  induction cs generalizing i with
  | nil => simp [packByte]
  | cons c cs ih =>
    have h0 := hc c (by simp)
    cases i with
    | zero =>
      simp only [packByte, Nat.pow_zero, Nat.div_one, List.getD_cons_zero]
      omega
    | succ j =>
      rw [List.getD_cons_succ, ← ih (fun x hx => hc x (by simp [hx])) j, packByte, Nat.pow_succ,
        Nat.mul_comm (4 ^ j) 4, ← Nat.div_div_eq_div_mul]
      congr 2
      omega

theorem packCodes_cons (cs : List Nat) (h : cs ≠ []) :
    packCodes cs = packByte (cs.take 4) :: packCodes (cs.drop 4) := by
  match cs, h with
  | [_], _ => rfl
  | [_, _], _ => rfl
  | [a, b, c], _ =>
    simp only [packCodes, List.take, List.drop, packByte, List.cons.injEq, and_true]
    omega
  | a :: b :: c :: d :: t, _ =>
    simp only [packCodes, List.take, List.drop, packByte, List.cons.injEq, and_true]
    omega

/-- field code read from a bare bitmap (no count byte in front) -/
def codeAt' (L : List Nat) (i : Nat) : Option Nat :=
  (L[i / 4]?).map fun b => b / 4 ^ (i % 4) % 4

theorem codeAt_cons (c : Nat) (L : List Nat) (i : Nat) : codeAt (c :: L) i = codeAt' L i := by
  unfold codeAt codeAt'
  rw [Nat.add_comm 1 (i / 4), List.getElem?_cons_succ]

theorem codeAt'_zero_div (b : Nat) (L : List Nat) (i : Nat) (hi : i < 4) :
    codeAt' (b :: L) i = some (b / 4 ^ i % 4) := by
  unfold codeAt'
  have h1 : i / 4 = 0 := by omega
  have h2 : i % 4 = i := by omega
  rw [h1, h2]
  rfl

theorem codeAt'_add4 (b : Nat) (L : List Nat) (j : Nat) :
    codeAt' (b :: L) (j + 4) = codeAt' L j := by
  unfold codeAt'
  have h1 : (j + 4) / 4 = j / 4 + 1 := by omega
  have h2 : (j + 4) % 4 = j % 4 := by omega
  rw [h1, h2, List.getElem?_cons_succ]

theorem codeAt'_pack (cs : List Nat) (hc : ∀ c ∈ cs, c < 4) (rest : List Nat) (i : Nat) (hi : i < cs.length) :
    codeAt' (packCodes cs ++ rest) i = some (cs.getD i 0) := by
  induction i using Nat.strongRecOn generalizing cs with
  | _ i ih =>
    rw [packCodes_cons cs (List.ne_nil_of_length_pos (by omega)), List.cons_append]
    by_cases h4 : i < 4
    · rw [codeAt'_zero_div _ _ i h4, packByte_digit _ (fun c h => hc c (List.mem_of_mem_take h))]
      simp [List.getD_eq_getElem?_getD, h4]
    · obtain ⟨j, rfl⟩ : ∃ j, i = j + 4 := ⟨i - 4, by omega⟩
      rw [codeAt'_add4, ih j (by omega) (cs.drop 4) (fun c h => hc c (List.mem_of_mem_drop h))
        (by rw [List.length_drop]; omega)]
      simp [List.getD_eq_getElem?_getD, List.getElem?_drop, Nat.add_comm]

def codes (xs : List Nat) : List Nat := xs.map fun x => code (normW x)
def vals (xs : List Nat) : List Nat := xs.flatMap fun x => leBytes (normW x) x

theorem enc_eq (xs : List Nat) (h : Ok xs) (rest : List Nat) :
    enc xs ++ rest = xs.length :: (packCodes (codes xs) ++ (vals xs ++ rest)) := by
  unfold enc
  rw [if_neg (by have := h.1; have := h.2.1; omega)]
  simp [codes, vals]

theorem codes_length (xs : List Nat) : (codes xs).length = xs.length := by simp [codes]

theorem codes_lt (xs : List Nat) : ∀ c ∈ codes xs, c < 4 := by
  intro c hc
  simp only [codes, List.mem_map] at hc
  obtain ⟨x, _, rfl⟩ := hc
  exact code_lt _

theorem pack_length (xs : List Nat) : (packCodes (codes xs)).length = bitmapSize xs.length := by
  rw [packCodes_length, codes_length]

theorem vals_length (xs : List Nat) : (vals xs).length = (xs.map normW).sum := by
  induction xs with
  | nil => rfl
  | cons x xs ih =>
    simp only [vals, List.flatMap_cons, List.length_append, leBytes_length, List.map_cons,
      List.sum_cons] at ih ⊢
    rw [ih]

theorem vals_append (a b : List Nat) : vals (a ++ b) = vals a ++ vals b := by
  simp [vals]

theorem vals_cons (x : Nat) (b : List Nat) : vals (x :: b) = leBytes (normW x) x ++ vals b := by
  simp [vals]

theorem enc_length_eq (xs : List Nat) (h : Ok xs) :
    (enc xs).length = 1 + bitmapSize xs.length + (xs.map normW).sum := by
  have := enc_eq xs h []
  rw [List.append_nil] at this
  rw [this]
  simp only [List.length_cons, List.length_append, pack_length, vals_length, List.length_nil]
  omega

theorem enc_length (xs : List Nat) (h : Ok xs) : (enc xs).length = size xs := by
  rw [enc_length_eq xs h]
  unfold size
  rw [if_neg (by have := h.1; have := h.2.1; omega)]

theorem codeAt_enc (xs : List Nat) (h : Ok xs) (rest : List Nat) (i : Nat) (hi : i < xs.length) :
    codeAt (enc xs ++ rest) i = some (code (normW (xs.getD i 0))) := by
  rw [enc_eq xs h, codeAt_cons,
    codeAt'_pack (codes xs) (codes_lt xs) _ i (by rw [codes_length]; exact hi)]
  congr 1
  simp only [codes, List.getD_eq_getElem?_getD, List.getElem?_map]
  rw [List.getElem?_eq_getElem hi]
  rfl

theorem widths_enc (xs : List Nat) (h : Ok xs) (rest : List Nat) (n : Nat) (hn : n ≤ xs.length) :
    widths (enc xs ++ rest) n = some ((xs.take n).map normW) := by
  unfold widths
  rw [mapM_some _ (fun i => normW (xs.getD i 0))]
  · rw [range_map_getD normW xs 0 n hn]
  · intro i hi
    rw [List.mem_range] at hi
    rw [codeAt_enc xs h rest i (by omega)]
    simp only [Option.map_some, width_code_normW]

theorem widths_enc_full (xs : List Nat) (h : Ok xs) (rest : List Nat) :
    widths (enc xs ++ rest) xs.length = some (xs.map normW) := by
  rw [widths_enc xs h rest xs.length (Nat.le_refl _), List.take_length]

/-- dropping the count byte, the bitmap and the first `k` value bytes -/
theorem drop_enc (xs : List Nat) (h : Ok xs) (rest : List Nat) (k : Nat) :
    (enc xs ++ rest).drop (1 + bitmapSize xs.length + k) = (vals xs ++ rest).drop k := by
  rw [enc_eq xs h]
  have e : 1 + bitmapSize xs.length + k = (bitmapSize xs.length + k) + 1 := by omega
  rw [e, List.drop_succ_cons, ← List.drop_drop, ← pack_length xs, List.drop_left]

theorem readFields_vals (bs : List Nat) (xs : List Nat) (hx : ∀ x ∈ xs, x < 2 ^ 64) (rest : List Nat) :
    ∀ off, bs.drop off = vals xs ++ rest → readFields bs (xs.map normW) off = some xs := by
  induction xs with
  | nil => intro off _; rfl
  | cons x xs ih =>
    intro off hoff
    simp only [List.map_cons, readFields]
    rw [hoff, vals_cons, List.append_assoc,
      takeExact_append _ _ (leBytes_length (normW x) x)]
    simp only
    have hd : bs.drop (off + normW x) = vals xs ++ rest := by
      rw [← List.drop_drop, hoff, vals_cons, List.append_assoc]
      have := List.drop_left (l₁ := leBytes (normW x) x) (l₂ := vals xs ++ rest)
      rw [leBytes_length] at this
      exact this
    rw [ih (fun y hy => hx y (by simp [hy])) _ hd]
    simp only
    rw [ofLe_leBytes_of_lt (lt_pow_normW (hx x (by simp)))]

theorem head_enc (xs : List Nat) (h : Ok xs) (rest : List Nat) :
    ∃ t, enc xs ++ rest = xs.length :: t := ⟨_, enc_eq xs h rest⟩

theorem dec_enc (xs : List Nat) (h : Ok xs) (cap : Nat) (hcap : xs.length ≤ cap) (rest : List Nat) :
    dec (enc xs ++ rest) cap = some (some (xs, (enc xs).length)) := by
  obtain ⟨t, ht⟩ := head_enc xs h rest
  have hw := widths_enc_full xs h rest
  have hd := drop_enc xs h rest 0
  rw [Nat.add_zero, List.drop_zero] at hd
  have hr := readFields_vals (enc xs ++ rest) xs h.2.2 rest _ hd
  rw [enc_length_eq xs h]
  rw [ht] at hw hr ⊢
  unfold dec
  simp only
  rw [if_neg (by have := h.1; have := h.2.1; omega), hw]
  simp only
  rw [hr]

theorem dec_enc_small (xs : List Nat) (h : Ok xs) (cap : Nat) (hcap : cap < xs.length) (rest : List Nat) :
    dec (enc xs ++ rest) cap = some none := by
  obtain ⟨t, ht⟩ := head_enc xs h rest
  rw [ht]
  unfold dec
  simp only
  rw [if_pos (Or.inr (Or.inr hcap))]

theorem getSize_enc (xs : List Nat) (h : Ok xs) (rest : List Nat) :
    getSize (enc xs ++ rest) = some (enc xs).length := by
  obtain ⟨t, ht⟩ := head_enc xs h rest
  have hw := widths_enc_full xs h rest
  rw [enc_length_eq xs h]
  rw [ht] at hw ⊢
  unfold getSize
  simp only
  rw [if_neg (by have := h.1; have := h.2.1; omega), hw]
  rfl

theorem getFieldWidth_enc (xs : List Nat) (h : Ok xs) (i : Nat) (hi : i < xs.length) (rest : List Nat) :
    getFieldWidth (enc xs ++ rest) i = some (normW (xs.getD i 0)) := by
  obtain ⟨t, ht⟩ := head_enc xs h rest
  have hc := codeAt_enc xs h rest i hi
  rw [ht] at hc ⊢
  unfold getFieldWidth
  simp only
  rw [if_neg (by have := h.1; omega), hc]
  simp only [Option.map_some, width_code_normW]

theorem sum_map_take_le (f : Nat → Nat) (xs : List Nat) (i : Nat) :
    ((xs.take i).map f).sum ≤ (xs.map f).sum := by
  induction xs generalizing i with
  | nil => simp
  | cons x xs ih =>
    cases i with
    | zero => simp
    | succ i =>
      simp only [List.take_succ_cons, List.map_cons, List.sum_cons]
      have := ih i
      omega

/-- dropping the count byte, the bitmap and the first `i` fields -/
theorem drop_fields (xs : List Nat) (h : Ok xs) (rest : List Nat) (i : Nat) :
    (enc xs ++ rest).drop (1 + bitmapSize xs.length + ((xs.take i).map normW).sum) = vals (xs.drop i) ++ rest := by
  have e : vals xs = vals (xs.take i) ++ vals (xs.drop i) := by rw [← vals_append, List.take_append_drop]
  rw [drop_enc xs h, e, ← vals_length, List.append_assoc, List.drop_left]

theorem getField_enc (xs : List Nat) (h : Ok xs) (i : Nat) (hi : i < xs.length) (rest : List Nat) :
    ∃ n, getField (enc xs ++ rest) i = some (some (xs.getD i 0, n)) ∧ n ≤ (enc xs).length := by
  obtain ⟨t, ht⟩ := head_enc xs h rest
  have hw := widths_enc xs h rest (i + 1) (by omega)
  have hx : xs[i] < 2 ^ 64 := h.2.2 _ (List.getElem_mem hi)
  have hskip : ((((xs.take (i + 1)).map normW)).take i).sum = ((xs.take i).map normW).sum := by
    rw [← List.map_take, List.take_take, Nat.min_eq_left (Nat.le_succ i)]
  have hwd : ((xs.take (i + 1)).map normW).getD i 1 = normW xs[i] := by
    rw [List.getD_eq_getElem?_getD, List.getElem?_map, List.getElem?_take_of_lt (Nat.lt_succ_self i),
      List.getElem?_eq_getElem hi]
    rfl
  have hdrop := drop_fields xs h rest i
  rw [List.drop_eq_getElem_cons hi, vals_cons, List.append_assoc] at hdrop
  have hsum := sum_map_take_le normW xs (i + 1)
  rw [List.take_add_one, List.getElem?_eq_getElem hi, List.map_append, List.sum_append, Option.toList_some,
    List.map_singleton, List.sum_singleton] at hsum
  refine ⟨1 + bitmapSize xs.length + ((xs.take i).map normW).sum + normW xs[i], ?_, ?_⟩
  · rw [ht] at hw hdrop ⊢
    unfold getField
    simp only
    rw [if_neg (by have := h.1; omega), hw]
    simp only
    rw [hskip, hwd, hdrop, takeExact_append _ _ (leBytes_length _ _)]
    simp only
    rw [ofLe_leBytes_of_lt (lt_pow_normW hx), List.getD_eq_getElem?_getD, List.getElem?_eq_getElem hi]
    rfl
  · rw [enc_length_eq xs h]
    omega

theorem readFields_length (bs : List Nat) : ∀ (ws : List Nat) (off : Nat) (vs : List Nat),
    readFields bs ws off = some vs → vs.length = ws.length := by
  intro ws
  induction ws with
  | nil => intro off vs h; cases h; rfl
  | cons w ws ih =>
    intro off vs h
    unfold readFields at h
    split at h
    · cases h
    · split at h
      · cases h
      · rename_i vs' hr
        cases h
        rw [List.length_cons, List.length_cons, ih _ _ hr]

theorem widths_length (bs : List Nat) (n : Nat) (ws : List Nat) (h : widths bs n = some ws) :
    ws.length = n := by
  unfold widths at h
  rw [mapM_length _ _ _ h, List.length_range]

theorem width_bounds (c : Nat) : 1 ≤ width c ∧ width c ≤ 8 := by
  unfold width
  split <;> omega

theorem widths_getElem? (bs ws : List Nat) (n : Nat) (hw : widths bs n = some ws) (i : Nat) (hi : i < n) :
    ∃ cd, codeAt bs i = some cd ∧ ws[i]? = some (width cd) := by
  have hl := widths_length bs n ws hw
  have h := mapM_getElem _ _ _ hw i (by simpa using hi) (by omega)
  rw [List.getElem_range] at h
  cases hc : codeAt bs i with
  | none => rw [hc] at h; cases h
  | some cd =>
    rw [hc] at h
    exact ⟨cd, rfl, by rw [List.getElem?_eq_getElem (by omega)]; exact h.symm⟩

theorem widths_bounds (bs ws : List Nat) (n : Nat) (hw : widths bs n = some ws) : ∀ w ∈ ws, 1 ≤ w ∧ w ≤ 8 := by
  intro w hwm
  obtain ⟨i, hi, e⟩ := List.getElem_of_mem hwm
  obtain ⟨cd, _, h⟩ := widths_getElem? bs ws n hw i (by rw [← widths_length bs n ws hw]; exact hi)
  rw [List.getElem?_eq_getElem hi, e] at h
  rw [Option.some.inj h]
  exact width_bounds cd

theorem dec_none_inv {c : Nat} {t : List Nat} {cap : Nat} (h : dec (c :: t) cap = some none) :
    c = 0 ∨ c > 64 ∨ c > cap := by
  unfold dec at h
  simp only at h
  split at h
  · assumption
  · split at h
    · cases h
    · split at h <;> cases h

theorem dec_some_inv {c : Nat} {t : List Nat} {cap : Nat} {vs : List Nat} {n : Nat}
    (h : dec (c :: t) cap = some (some (vs, n))) :
    ¬ (c = 0 ∨ c > 64 ∨ c > cap) ∧ ∃ ws, widths (c :: t) c = some ws ∧
      readFields (c :: t) ws (1 + bitmapSize c) = some vs ∧ n = 1 + bitmapSize c + ws.sum := by
  unfold dec at h
  simp only at h
  split at h
  · cases h
  · rename_i hc
    split at h
    · cases h
    · rename_i ws hw
      split at h
      · cases h
      · rename_i vs' hr
        cases h
        exact ⟨hc, ws, hw, hr, rfl⟩

theorem getField_none_inv {c : Nat} {t : List Nat} {i : Nat} (h : getField (c :: t) i = some none) :
    c = 0 ∨ i ≥ c := by
  unfold getField at h
  simp only at h
  split at h
  · assumption
  · split at h
    · cases h
    · split at h <;> cases h

theorem getField_some_inv {c : Nat} {t : List Nat} {i v n : Nat} (h : getField (c :: t) i = some (some (v, n))) :
    ¬ (c = 0 ∨ i ≥ c) ∧ ∃ ws p, widths (c :: t) (i + 1) = some ws ∧
      takeExact (ws.getD i 1) ((c :: t).drop (1 + bitmapSize c + (ws.take i).sum)) = some p ∧
      v = ofLe p ∧ n = 1 + bitmapSize c + (ws.take i).sum + ws.getD i 1 := by
  unfold getField at h
  simp only at h
  split at h
  · cases h
  · rename_i hc
    split at h
    · cases h
    · rename_i ws hw
      split at h
      · cases h
      · rename_i p hp
        cases h
        exact ⟨hc, ws, p, hw, hp, rfl, rfl⟩

theorem dec_length_eq (bs : List Nat) (cap : Nat) (vs : List Nat) (n : Nat)
    (h : dec bs cap = some (some (vs, n))) :
    ∃ c t, bs = c :: t ∧ vs.length = c ∧ 1 ≤ c ∧ c ≤ 64 ∧ c ≤ cap := by
  cases bs with
  | nil => simp [dec] at h
  | cons c t =>
    obtain ⟨hc, ws, hw, hr, _⟩ := dec_some_inv h
    have h1 := readFields_length _ _ _ _ hr
    have h2 := widths_length _ _ _ hw
    exact ⟨c, t, rfl, by omega, by omega, by omega, by omega⟩

theorem dec_length_le_cap (bs : List Nat) (cap : Nat) (vs : List Nat) (n : Nat)
    (h : dec bs cap = some (some (vs, n))) : vs.length ≤ cap ∧ vs.length ≤ 64 := by
  obtain ⟨c, t, _, h1, _, h3, h4⟩ := dec_length_eq bs cap vs n h
  omega

theorem packCodes_lt (cs : List Nat) (hc : ∀ c ∈ cs, c < 4) : ∀ b ∈ packCodes cs, b < 256 := by
  induction cs using packCodes.induct with
  | case1 => simp [packCodes]
  | case5 a b c d t ih =>
    simp only [List.forall_mem_cons] at hc
    simp only [packCodes, List.forall_mem_cons]
    exact ⟨by omega, ih hc.2.2.2.2⟩
  | _ =>
    simp only [List.forall_mem_cons] at hc
    simp only [packCodes, List.forall_mem_cons, List.not_mem_nil, false_imp_iff, implies_true, and_true]
    omega

theorem vals_lt (xs : List Nat) : ∀ b ∈ vals xs, b < 256 := by
  intro b hb
  simp only [vals, List.mem_flatMap] at hb
  obtain ⟨x, _, hx⟩ := hb
  exact leBytes_lt _ _ b hx

theorem enc_lt (xs : List Nat) (h : Ok xs) : ∀ b ∈ enc xs, b < 256 := by
  intro b hb
  have e := enc_eq xs h []
  rw [List.append_nil, List.append_nil] at e
  rw [e] at hb
  simp only [List.mem_cons, List.mem_append] at hb
  rcases hb with hb | hb | hb
  · have := h.2.1; omega
  · exact packCodes_lt (codes xs) (codes_lt xs) b hb
  · exact vals_lt xs b hb

theorem sum_le_mul (l : List Nat) (b : Nat) (h : ∀ x ∈ l, x ≤ b) : l.sum ≤ b * l.length := by
  induction l with
  | nil => simp
  | cons x l ih =>
    have := h x (by simp)
    have := ih (fun y hy => h y (by simp [hy]))
    rw [List.sum_cons, List.length_cons, Nat.mul_succ]
    omega

theorem sum_normW_le (xs : List Nat) : (xs.map normW).sum ≤ 8 * xs.length := by
  have := sum_le_mul (xs.map normW) 8 (by
    intro w hw
    obtain ⟨x, _, rfl⟩ := List.mem_map.1 hw
    exact normW_le_8 x)
  rwa [List.length_map] at this

theorem size_le (xs : List Nat) (h : Ok xs) : size xs ≤ 1 + 16 + 8 * xs.length := by
  unfold size
  rw [if_neg (by have := h.1; have := h.2.1; omega)]
  have := sum_normW_le xs
  have := h.2.1
  unfold bitmapSize
  omega

end Varint.Group
