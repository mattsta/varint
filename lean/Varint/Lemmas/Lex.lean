import Varint.Model.Tagged
import Varint.Lemmas.Bytes
import Varint.Lemmas.Tagged
/- Lexicographic order of byte strings (memcmp model) and the tagged encoding as a big-endian key. -/
namespace Varint

theorem lexCmp_cons_lt {a b : Nat} (h : a < b) (as bs : List Nat) : lexCmp (a :: as) (b :: bs) = .lt := by
  simp [lexCmp, h]

theorem lexCmp_cons_gt {a b : Nat} (h : b < a) (as bs : List Nat) : lexCmp (a :: as) (b :: bs) = .gt := by
  have : ¬ a < b := by omega
  simp [lexCmp, h, this]

theorem lexCmp_cons_same (a : Nat) (as bs : List Nat) : lexCmp (a :: as) (a :: bs) = lexCmp as bs := by
  simp [lexCmp]

theorem lexCmp_append_same (p as bs : List Nat) : lexCmp (p ++ as) (p ++ bs) = lexCmp as bs := by
  induction p with
  | nil => rfl
  | cons x p ih => simp [lexCmp, ih]

theorem lexCmp_self (as : List Nat) : lexCmp as as = .eq := by
  induction as with
  | nil => rfl
  | cons x p ih => simp [lexCmp, ih]

theorem lexCmp_swap (as bs : List Nat) : lexCmp as bs = .lt ↔ lexCmp bs as = .gt := by
  induction as generalizing bs with
  | nil => cases bs <;> simp [lexCmp]
  | cons a as ih =>
    cases bs with
    | nil => simp [lexCmp]
    | cons b bs =>
      simp only [lexCmp]
      by_cases h1 : a < b
      · have : ¬ b < a := by omega
        simp [h1, this]
      · by_cases h2 : b < a
        · simp [h1, h2]
        · simp [h1, h2, ih]

/-- big-endian payloads of equal length compare like the numbers, whatever follows -/
theorem lexCmp_be_lt (k x y : Nat) (hx : x < 256 ^ k) (hy : y < 256 ^ k) (h : x < y) (r1 r2 : List Nat) :
    lexCmp (beBytes k x ++ r1) (beBytes k y ++ r2) = .lt := by
  induction k generalizing x y with
  | zero => simp at hx hy; omega
  | succ k ih =>
    simp only [beBytes, List.cons_append]
    have hpos : 0 < 256 ^ k := Nat.pow_pos (by omega)
    rw [Nat.pow_succ] at hx hy
    have hxd : x / 256 ^ k < 256 := (Nat.div_lt_iff_lt_mul hpos).mpr (by omega)
    have hyd : y / 256 ^ k < 256 := (Nat.div_lt_iff_lt_mul hpos).mpr (by omega)
    rw [Nat.mod_eq_of_lt hxd, Nat.mod_eq_of_lt hyd]
    have hle : x / 256 ^ k ≤ y / 256 ^ k := Nat.div_le_div_right (by omega)
    by_cases he : x / 256 ^ k = y / 256 ^ k
    · rw [he, lexCmp_cons_same]
      have hx' := Nat.div_add_mod x (256 ^ k)
      have hy' := Nat.div_add_mod y (256 ^ k)
      have hmod : x % 256 ^ k < y % 256 ^ k := by
        rw [he] at hx'
        omega
      rw [← beBytes_mod k x, ← beBytes_mod k y]
      exact ih _ _ (Nat.mod_lt _ hpos) (Nat.mod_lt _ hpos) hmod
    · exact lexCmp_cons_lt (by omega) _ _

namespace Tagged

/-- offset that turns a value of length class `n` into its big-endian key -/
def keyOff (n : Nat) : Nat :=
  if n ≤ 1 then 0
  else if n = 2 then 241 * 256 - 240
  else if n = 3 then 249 * 256 ^ 2 - 2288
  else (246 + n) * 256 ^ (n - 1)

theorem keyOff_one : keyOff 1 = 0 := rfl
theorem keyOff_two : keyOff 2 = 61456 := rfl
theorem keyOff_three : keyOff 3 = 16316176 := rfl
theorem keyOff_wide {w : Nat} (h : 3 ≤ w) : keyOff (w + 1) = (247 + w) * 256 ^ w := by
  rw [keyOff, if_neg (by omega), if_neg (by omega), if_neg (by omega), Nat.add_sub_cancel,
    show 246 + (w + 1) = 247 + w by omega]

/-- every tagged encoding is the big-endian rendering of `v + keyOff (len v)` in `len v` bytes -/
theorem enc_eq_be (v : Nat) (hv : v < 2 ^ 64) : enc v = beBytes (len v) (v + keyOff (len v)) := by
  rcases shape v with ⟨h, hl, he⟩ | ⟨h1, h2, hl, he⟩ | ⟨h1, h2, hl, he⟩ | ⟨h, hl, he⟩ <;> rw [he, hl]
  · rw [keyOff_one, beBytes_one, Nat.add_zero, Nat.mod_eq_of_lt (by omega)]
  · simp only [keyOff_two, beBytes, List.cons.injEq, and_true]
    omega
  · simp only [keyOff_three, beBytes, List.cons.injEq, and_true]
    omega
  · have h8 := extLen_le_8 hv
    rw [Nat.min_eq_left h8, Nat.add_comm 1, keyOff_wide (three_le_extLen h),
      beBytes_succ_add (lt_pow_extLen v) (by omega)]

theorem key_lt (v : Nat) (hv : v < 2 ^ 64) : v + keyOff (len v) < 256 ^ len v := by
  rcases shape v with ⟨h, hl, -⟩ | ⟨h1, h2, hl, -⟩ | ⟨h1, h2, hl, -⟩ | ⟨h, hl, -⟩ <;> rw [hl]
  · rw [keyOff_one]; omega
  · rw [keyOff_two]; omega
  · rw [keyOff_three]; omega
  · have h8 := extLen_le_8 hv
    rw [Nat.min_eq_left h8, Nat.add_comm 1, keyOff_wide (three_le_extLen h), Nat.pow_succ]
    have := lt_pow_extLen v
    have := Nat.mul_le_mul_right (256 ^ extLen v) (show 247 + extLen v ≤ 255 by omega)
    omega

/-- first byte determines (and is determined up to range by) the length class -/
theorem head_range (v : Nat) :
    (len v = 1 → (enc v).headD 0 ≤ 240) ∧
    (len v = 2 → 241 ≤ (enc v).headD 0 ∧ (enc v).headD 0 ≤ 248) ∧
    (4 ≤ len v ∨ len v = 3 → (enc v).headD 0 = 246 + len v) := by
  rcases shape v with ⟨h, hl, he⟩ | ⟨h1, h2, hl, he⟩ | ⟨h1, h2, hl, he⟩ | ⟨h, hl, he⟩ <;>
    rw [he, hl, List.headD_cons]
  · omega
  · omega
  · omega
  · have := three_le_extLen h
    omega

/-- the heart of C05: a smaller value's encoding is strictly below, already inside the common
    prefix (so nothing appended to either side can change the order: prefix-freeness) -/
theorem enc_lt_of_lt {a b : Nat} (hb : b < 2 ^ 64) (h : a < b) (A B : List Nat) :
    lexCmp (enc a ++ A) (enc b ++ B) = .lt := by
  have ha : a < 2 ^ 64 := by omega
  have hlen := len_mono (Nat.le_of_lt h)
  by_cases he : len a = len b
  · rw [enc_eq_be a ha, enc_eq_be b hb, he]
    apply lexCmp_be_lt
    · rw [← he]; exact key_lt a ha
    · exact key_lt b hb
    · omega
  · have hlt : len a < len b := by omega
    have hra := head_range a
    have hrb := head_range b
    have hla := len_bounds a
    have hlb := len_bounds b
    have hna := enc_ne_nil a
    have hnb := enc_ne_nil b
    cases hea : enc a with
    | nil => exact absurd hea hna
    | cons x xs =>
      cases heb : enc b with
      | nil => exact absurd heb hnb
      | cons y ys =>
        rw [hea] at hra; rw [heb] at hrb
        simp only [List.headD_cons] at hra hrb
        simp only [List.cons_append]
        apply lexCmp_cons_lt
        omega

end Tagged
end Varint
