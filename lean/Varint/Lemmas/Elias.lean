import Varint.Model.Elias
import Varint.Lemmas.Bits
/- The Elias gamma / delta model (Model/Elias.lean, Model/Bits.lean). First, for C14: a decoder whose bit
   source is readable below `total` (`Defined`) never loads an unreadable bit (`*_ne_none`), and stores at
   most `room` values. Then round trip, size and capacity. Core Lean only. -/
namespace Varint.Elias

def Defined (rd : Reader) (total : Nat) : Prop := ∀ i, i < total → rd i ≠ none

theorem readBits_ne_none (rd : Reader) (total : Nat) (hd : Defined rd total) (n pos acc : Nat)
    (h : pos + n ≤ total) : readBits rd n pos acc ≠ none := by
  induction n generalizing pos acc with
  | zero => exact nofun
  | succ n ih =>
    unfold readBits
    have := hd pos (by omega)
    split
    · contradiction
    · exact ih _ _ (by omega)

theorem map_ne_none {α β : Type} {o : Option α} (f : α → β) (h : o ≠ none) : o.map f ≠ none := by
  cases o with
  | none => exact absurd rfl h
  | some a => exact nofun

theorem gammaDecAux_ne_none (rd : Reader) (total : Nat) (hd : Defined rd total) (fuel z pos : Nat) :
    gammaDecAux rd total fuel z pos ≠ none := by
  induction fuel generalizing z pos with
  | zero => exact nofun
  | succ fuel ih =>
    unfold gammaDecAux
    split
    · exact nofun
    · have := hd pos (by omega)
      split
      · contradiction
      · split
        · exact nofun
        · split
          · exact nofun
          · exact map_ne_none _ (readBits_ne_none rd total hd z (pos + 1) 0 (by omega))
      · split
        · exact nofun
        · exact ih _ _

theorem gammaDec_ne_none (rd : Reader) (total : Nat) (hd : Defined rd total) (pos : Nat) :
    gammaDec rd total pos ≠ none := gammaDecAux_ne_none rd total hd _ _ _

theorem deltaDec_ne_none (rd : Reader) (total : Nat) (hd : Defined rd total) (pos : Nat) :
    deltaDec rd total pos ≠ none := by
  unfold deltaDec
  have := gammaDec_ne_none rd total hd pos
  split
  · contradiction
  · rename_i lenN p _
    split
    · exact nofun
    · split
      · exact nofun
      · split
        · exact nofun
        · exact map_ne_none _ (readBits_ne_none rd total hd (lenN - 1) p 0 (by omega))

theorem decArrayAux_ne_none (one : Reader → Nat → Nat → Option (Nat × Nat)) (rd : Reader) (total : Nat)
    (hone : ∀ pos, one rd total pos ≠ none) (room pos : Nat) : decArrayAux one rd total room pos ≠ none := by
  induction room generalizing pos with
  | zero => exact nofun
  | succ room ih =>
    unfold decArrayAux
    split
    · exact nofun
    · have := hone pos
      split
      · contradiction
      · split
        · exact nofun
        · exact map_ne_none _ (ih _)

theorem decArrayAux_length (one : Reader → Nat → Nat → Option (Nat × Nat)) (rd : Reader) (total : Nat)
    (room pos : Nat) (vs : List Nat) (h : decArrayAux one rd total room pos = some vs) : vs.length ≤ room := by
  induction room generalizing pos vs with
  | zero => cases h; exact Nat.le_refl _
  | succ room ih =>
    unfold decArrayAux at h
    split at h
    · cases h; exact Nat.zero_le _
    · split at h
      · cases h
      · split at h
        · cases h; exact Nat.zero_le _
        · rename_i p _ _
          cases hr : decArrayAux one rd total room p with
          | none => rw [hr] at h; cases h
          | some x =>
            rw [hr] at h
            cases h
            exact Nat.succ_le_succ (ih _ _ hr)

theorem declared_defined (bytes : List Nat) (srcBits : Nat) (h : srcBits ≤ 8 * bytes.length) :
    Defined (declared bytes srcBits) srcBits := by
  intro i hi
  unfold declared
  rw [if_pos hi]
  unfold Varint.Bits.bitMsb
  have : i / 8 < bytes.length := by omega
  simp [this]

open Varint.Bits

def AgreesAt (rd : Reader) (off : Nat) (bs : List Bool) : Prop :=
  ∀ i (h : i < bs.length), rd (off + i) = some bs[i]

theorem AgreesAt.left {rd : Reader} {off : Nat} {a b : List Bool} (h : AgreesAt rd off (a ++ b)) :
    AgreesAt rd off a := by
  intro i hi
  have := h i (by rw [List.length_append]; omega)
  rw [this, List.getElem_append_left hi]

theorem AgreesAt.right {rd : Reader} {off : Nat} {a b : List Bool} (h : AgreesAt rd off (a ++ b)) :
    AgreesAt rd (off + a.length) b := by
  intro i hi
  have := h (a.length + i) (by rw [List.length_append]; omega)
  rw [Nat.add_assoc, this, List.getElem_append_right (by omega)]
  simp

theorem AgreesAt.head {rd : Reader} {off : Nat} {b : Bool} {bs : List Bool} (h : AgreesAt rd off (b :: bs)) :
    rd off = some b := by
  have := h 0 (by simp)
  simpa using this

theorem AgreesAt.tail {rd : Reader} {off : Nat} {b : Bool} {bs : List Bool} (h : AgreesAt rd off (b :: bs)) :
    AgreesAt rd (off + 1) bs := by
  have : b :: bs = [b] ++ bs := rfl
  rw [this] at h
  exact h.right

theorem readBits_msb (rd : Reader) (n v pos acc : Nat) (h : AgreesAt rd pos (msb n v)) :
    readBits rd n pos acc = some (acc * 2 ^ n + v % 2 ^ n, pos + n) := by
  induction n generalizing pos acc with
  | zero => simp [readBits, Nat.mod_one]
  | succ n ih =>
    unfold msb at h
    unfold readBits
    rw [h.head]
    simp only
    rw [ih _ _ h.tail]
    congr 2
    · rw [Nat.mod_pow_succ (x := v) (b := 2) (k := n), Nat.pow_succ]
      have : (if decide (v / 2 ^ n % 2 = 1) = true then 1 else 0) = v / 2 ^ n % 2 := by
        by_cases hb : v / 2 ^ n % 2 = 1
        · simp [hb]
        · have : v / 2 ^ n % 2 = 0 := by omega
          simp [this]
      rw [this, Nat.add_mul, Nat.mul_comm 2 acc, Nat.mul_assoc, Nat.mul_comm 2 (2 ^ n),
        Nat.mul_comm (v / 2 ^ n % 2)]
      omega
    · omega

theorem gammaDecAux_code (rd : Reader) (total v L : Nat) (hlo : 2 ^ L ≤ v) (hhi : v < 2 ^ (L + 1))
    (hL : L ≤ 63) (k : Nat) : ∀ (fuel z pos : Nat), z + k = L → k < fuel →
      AgreesAt rd pos (List.replicate k false ++ msb (L + 1) v) → pos + k + L + 1 ≤ total →
      gammaDecAux rd total fuel z pos = some (v, pos + k + L + 1) := by
  induction k with
  | zero =>
    intro fuel z pos hz hf hag ht
    cases fuel with
    | zero => omega
    | succ f =>
      simp only [List.replicate_zero, List.nil_append] at hag
      rw [msb_succ_head L v hlo hhi] at hag
      have hz' : z = L := by omega
      subst hz'
      unfold gammaDecAux
      rw [if_neg (by omega), hag.head]
      simp only
      by_cases h0 : z = 0
      · rw [if_pos h0]
        subst h0
        have : v = 1 := by simp at hlo hhi; omega
        subst this
        rfl
      · rw [if_neg h0, if_neg (by omega), readBits_msb rd z v (pos + 1) 0 hag.tail]
        simp only [Option.map_some, Nat.zero_mul, Nat.zero_add]
        rw [pow_add_mod z v hlo hhi]
        congr 2
        omega
  | succ k ih =>
    intro fuel z pos hz hf hag ht
    cases fuel with
    | zero => omega
    | succ f =>
      have hag' : AgreesAt rd pos (false :: (List.replicate k false ++ msb (L + 1) v)) := by
        rw [List.replicate_succ] at hag
        exact hag
      unfold gammaDecAux
      rw [if_neg (by omega), hag'.head]
      simp only
      rw [if_neg (by omega), ih f (z + 1) (pos + 1) (by omega) (by omega) hag'.tail (by omega)]
      congr 2
      omega

theorem gamma_length (v : Nat) : (gamma v).length = gammaBits v := by
  unfold gamma gammaBits
  simp only [List.length_append, List.length_replicate, msb_length]
  omega

theorem delta_length (v : Nat) : (delta v).length = deltaBits v := by
  unfold delta deltaBits
  rw [List.length_append, gamma_length, msb_length]

theorem gammaDec_at (rd : Reader) (total pos v : Nat) (h1 : 1 ≤ v) (h64 : v < 2 ^ 64)
    (hag : AgreesAt rd pos (gamma v)) (ht : pos + (gamma v).length ≤ total) :
    gammaDec rd total pos = some (v, pos + (gamma v).length) := by
  rw [gamma_length] at ht ⊢
  have hb := log2_bounds v h1
  have hL := log2_le_63 v h64
  unfold gammaDec
  unfold gammaBits at ht ⊢
  rw [gammaDecAux_code rd total v (log2 v) hb.1 hb.2 hL (log2 v) 65 0 pos (by omega) (by omega) hag
    (by omega)]
  congr 2
  omega

theorem deltaDec_at (rd : Reader) (total pos v : Nat) (h1 : 1 ≤ v) (h64 : v < 2 ^ 64)
    (hag : AgreesAt rd pos (delta v)) (ht : pos + (delta v).length ≤ total) :
    deltaDec rd total pos = some (v, pos + (delta v).length) := by
  rw [delta_length] at ht ⊢
  have hb := log2_bounds v h1
  have hL := log2_le_63 v h64
  unfold delta at hag
  unfold deltaBits at ht ⊢
  unfold deltaDec
  rw [gammaDec_at rd total pos (log2 v + 1) (by omega) (by omega) hag.left (by rw [gamma_length]; omega),
    gamma_length]
  simp only
  rw [if_neg (by omega)]
  simp only [Nat.add_sub_cancel]
  by_cases h0 : log2 v = 0
  · rw [if_pos h0]
    rw [h0] at hb ⊢
    have : v = 1 := by have := hb.1; have := hb.2; simp at *; omega
    subst this
    rfl
  · have hr := hag.right
    rw [gamma_length] at hr
    rw [if_neg h0, if_neg (by omega), readBits_msb rd (log2 v) v _ 0 hr]
    simp only [Option.map_some, Nat.zero_mul, Nat.zero_add]
    rw [pow_add_mod (log2 v) v hb.1 hb.2]
    congr 2
    omega

/-- a reader that agrees (from position 0) with a whole bit list -/
def Agrees (rd : Reader) (bs : List Bool) : Prop := ∀ i (h : i < bs.length), rd i = some bs[i]

theorem Agrees.at0 {rd : Reader} {bs : List Bool} (h : Agrees rd bs) : AgreesAt rd 0 bs := by
  intro i hi
  rw [Nat.zero_add]
  exact h i hi

/-- `varintEliasGammaDecode` on a gamma code embedded anywhere in a bit stream -/
theorem gammaDec_enc (rd : Reader) (pre post : List Bool) (v total : Nat) (h1 : 1 ≤ v) (h64 : v < 2 ^ 64)
    (hrd : Agrees rd (pre ++ gamma v ++ post)) (ht : (pre ++ gamma v).length ≤ total) :
    gammaDec rd total pre.length = some (v, pre.length + gammaBits v) := by
  have hag := hrd.at0.left.right
  rw [Nat.zero_add] at hag
  rw [List.length_append] at ht
  exact gamma_length v ▸ gammaDec_at rd total pre.length v h1 h64 hag ht

/-- `varintEliasDeltaDecode`, likewise -/
theorem deltaDec_enc (rd : Reader) (pre post : List Bool) (v total : Nat) (h1 : 1 ≤ v) (h64 : v < 2 ^ 64)
    (hrd : Agrees rd (pre ++ delta v ++ post)) (ht : (pre ++ delta v).length ≤ total) :
    deltaDec rd total pre.length = some (v, pre.length + deltaBits v) := by
  have hag := hrd.at0.left.right
  rw [Nat.zero_add] at hag
  rw [List.length_append] at ht
  exact delta_length v ▸ deltaDec_at rd total pre.length v h1 h64 hag ht

theorem gammaDecAux_zeros (rd : Reader) (total : Nat) : ∀ (fuel z pos : Nat),
    (∀ i, pos ≤ i → i < total → rd i = some false) → ∃ p, gammaDecAux rd total fuel z pos = some (0, p) := by
  intro fuel
  induction fuel with
  | zero => intro z pos _; exact ⟨pos, rfl⟩
  | succ f ih =>
    intro z pos hz
    unfold gammaDecAux
    by_cases hp : pos + 1 > total
    · rw [if_pos hp]; exact ⟨pos, rfl⟩
    · rw [if_neg hp, hz pos (Nat.le_refl _) (by omega)]
      simp only
      by_cases h63 : z + 1 > 63
      · rw [if_pos h63]; exact ⟨pos + 1, rfl⟩
      · rw [if_neg h63]
        exact ih (z + 1) (pos + 1) (fun i h1 h2 => hz i (by omega) h2)

theorem gammaDec_zeros (rd : Reader) (total pos : Nat)
    (hz : ∀ i, pos ≤ i → i < total → rd i = some false) : ∃ p, gammaDec rd total pos = some (0, p) :=
  gammaDecAux_zeros rd total 65 0 pos hz

theorem deltaDec_zeros (rd : Reader) (total pos : Nat)
    (hz : ∀ i, pos ≤ i → i < total → rd i = some false) : ∃ p, deltaDec rd total pos = some (0, p) := by
  obtain ⟨p, hp⟩ := gammaDec_zeros rd total pos hz
  refine ⟨p, ?_⟩
  unfold deltaDec
  rw [hp]
  simp

def Pos64 (xs : List Nat) : Prop := ∀ x ∈ xs, 1 ≤ x ∧ x < 2 ^ 64

/-- generic array round trip for a per-value code `code` decoded by `one` -/
theorem decArrayAux_enc (one : Reader → Nat → Nat → Option (Nat × Nat)) (code : Nat → List Bool)
    (Hone : ∀ rd total pos v, 1 ≤ v → v < 2 ^ 64 → AgreesAt rd pos (code v) →
      pos + (code v).length ≤ total → one rd total pos = some (v, pos + (code v).length))
    (Hpos : ∀ v, 0 < (code v).length)
    (Hend : ∀ rd total pos, (∀ i, pos ≤ i → i < total → rd i = some false) →
      ∃ p, one rd total pos = some (0, p))
    (rd : Reader) (total : Nat) (xs : List Nat) (h : Pos64 xs) : ∀ (room pos : Nat),
      AgreesAt rd pos (xs.flatMap code) → pos + (xs.flatMap code).length ≤ total →
      (∀ i, pos + (xs.flatMap code).length ≤ i → i < total → rd i = some false) →
      decArrayAux one rd total room pos = some (xs.take room) := by
  induction xs with
  | nil =>
    intro room pos _ _ hz
    cases room with
    | zero => rfl
    | succ room =>
      unfold decArrayAux
      by_cases hp : pos + 1 > total
      · rw [if_pos hp]; rfl
      · rw [if_neg hp]
        obtain ⟨p, hp⟩ := Hend rd total pos (fun i h1 h2 => hz i (by simpa using h1) h2)
        rw [hp]
        rfl
  | cons x xs ih =>
    intro room pos hag ht hz
    have hx := h x (by simp)
    have hxs : Pos64 xs := fun y hy => h y (by simp [hy])
    rw [List.flatMap_cons] at hag ht hz
    rw [List.length_append] at ht hz
    have hp := Hpos x
    cases room with
    | zero => rfl
    | succ room =>
      unfold decArrayAux
      rw [if_neg (by omega), Hone rd total pos x hx.1 hx.2 hag.left (by omega)]
      simp only
      rw [if_neg (by omega), ih hxs room _ hag.right (by omega) (fun i h1 h2 => hz i (by omega) h2)]
      rfl

theorem declared_agrees (bits : List Bool) (srcBits : Nat) (h : bits.length ≤ srcBits) :
    AgreesAt (declared (packMsb bits) srcBits) 0 bits := by
  intro i hi
  unfold declared
  rw [Nat.zero_add, if_pos (by omega), bitMsb_packMsb_lt bits i hi]

theorem declared_pad (bits : List Bool) (srcBits : Nat) (h : srcBits ≤ 8 * (packMsb bits).length) :
    ∀ i, 0 + bits.length ≤ i → i < srcBits → declared (packMsb bits) srcBits i = some false := by
  intro i h1 h2
  unfold declared
  rw [if_pos h2, bitMsb_packMsb_pad bits i (by omega) (by omega)]

theorem gamma_length_pos (v : Nat) : 0 < (gamma v).length := by
  rw [gamma_length]; unfold gammaBits; omega

theorem delta_length_pos (v : Nat) : 0 < (delta v).length := by
  rw [delta_length]; unfold deltaBits gammaBits; omega

/-- `varintEliasGammaDecodeArray` on the encoder's bytes: any declared bit count between the exact number of code bits
    and the byte-granular `8 * length`, any capacity (output = the first `cap` values) -/
theorem decGamma_enc_gen (xs : List Nat) (h : Pos64 xs) (srcBits cap : Nat)
    (hlo : (xs.flatMap gamma).length ≤ srcBits) (hhi : srcBits ≤ 8 * (encGamma xs).length) :
    decGamma (encGamma xs) srcBits cap = some (xs.take cap) :=
  decArrayAux_enc gammaDec gamma gammaDec_at gamma_length_pos gammaDec_zeros _ _ xs h cap 0
    (declared_agrees _ _ hlo) (by omega) (declared_pad _ _ hhi)

theorem decDelta_enc_gen (xs : List Nat) (h : Pos64 xs) (srcBits cap : Nat)
    (hlo : (xs.flatMap delta).length ≤ srcBits) (hhi : srcBits ≤ 8 * (encDelta xs).length) :
    decDelta (encDelta xs) srcBits cap = some (xs.take cap) :=
  decArrayAux_enc deltaDec delta deltaDec_at delta_length_pos deltaDec_zeros _ _ xs h cap 0
    (declared_agrees _ _ hlo) (by omega) (declared_pad _ _ hhi)

theorem bits_le_bytes (bits : List Bool) : bits.length ≤ 8 * (packMsb bits).length := by
  rw [packMsb_length]; omega

theorem decGamma_enc (xs : List Nat) (h : Pos64 xs) (cap : Nat) (hcap : xs.length ≤ cap) :
    decGamma (encGamma xs) ((xs.flatMap gamma).length) cap = some xs := by
  rw [decGamma_enc_gen xs h _ cap (Nat.le_refl _) (bits_le_bytes _), List.take_of_length_le hcap]

/-- the byte-granular bit count is what the C tests pass: the padding decodes as "no more values" -/
theorem decGamma_enc_bytes (xs : List Nat) (h : Pos64 xs) (cap : Nat) (hcap : xs.length ≤ cap) :
    decGamma (encGamma xs) (8 * (encGamma xs).length) cap = some xs := by
  rw [decGamma_enc_gen xs h (8 * (encGamma xs).length) cap (bits_le_bytes _) (Nat.le_refl _),
    List.take_of_length_le hcap]

theorem decGamma_enc_take (xs : List Nat) (h : Pos64 xs) (cap : Nat) :
    decGamma (encGamma xs) ((xs.flatMap gamma).length) cap = some (xs.take cap) ∧
    decGamma (encGamma xs) (8 * (encGamma xs).length) cap = some (xs.take cap) :=
  ⟨decGamma_enc_gen xs h _ cap (Nat.le_refl _) (bits_le_bytes _),
   decGamma_enc_gen xs h (8 * (encGamma xs).length) cap (bits_le_bytes _) (Nat.le_refl _)⟩

theorem decDelta_enc (xs : List Nat) (h : Pos64 xs) (cap : Nat) (hcap : xs.length ≤ cap) :
    decDelta (encDelta xs) ((xs.flatMap delta).length) cap = some xs := by
  rw [decDelta_enc_gen xs h _ cap (Nat.le_refl _) (bits_le_bytes _), List.take_of_length_le hcap]

theorem decDelta_enc_bytes (xs : List Nat) (h : Pos64 xs) (cap : Nat) (hcap : xs.length ≤ cap) :
    decDelta (encDelta xs) (8 * (encDelta xs).length) cap = some xs := by
  rw [decDelta_enc_gen xs h (8 * (encDelta xs).length) cap (bits_le_bytes _) (Nat.le_refl _),
    List.take_of_length_le hcap]

theorem decDelta_enc_take (xs : List Nat) (h : Pos64 xs) (cap : Nat) :
    decDelta (encDelta xs) ((xs.flatMap delta).length) cap = some (xs.take cap) ∧
    decDelta (encDelta xs) (8 * (encDelta xs).length) cap = some (xs.take cap) :=
  ⟨decDelta_enc_gen xs h _ cap (Nat.le_refl _) (bits_le_bytes _),
   decDelta_enc_gen xs h (8 * (encDelta xs).length) cap (bits_le_bytes _) (Nat.le_refl _)⟩

theorem gammaBits_le (v : Nat) (h64 : v < 2 ^ 64) : gammaBits v ≤ 127 := by
  have := log2_le_63 v h64
  unfold gammaBits; omega

theorem deltaBits_le (v : Nat) (h64 : v < 2 ^ 64) : deltaBits v ≤ 76 := by
  have hL := log2_le_63 v h64
  have h6 : log2 (log2 v + 1) < 7 := by
    unfold log2
    exact (Nat.log2_lt (by omega)).mpr (by unfold log2 at hL; omega)
  unfold deltaBits gammaBits; omega

theorem flatMap_length_le (code : Nat → List Bool) (B : Nat) (xs : List Nat) (hc : ∀ v ∈ xs, (code v).length ≤ B) :
    (xs.flatMap code).length ≤ xs.length * B := by
  induction xs with
  | nil => simp
  | cons x xs ih =>
    have := ih (fun y hy => hc y (by simp [hy]))
    have := hc x (by simp)
    rw [List.flatMap_cons, List.length_append, List.length_cons, Nat.add_mul]
    omega

theorem encGamma_length_le (xs : List Nat) (h : Pos64 xs) : (encGamma xs).length ≤ gammaMaxBytes xs.length := by
  unfold encGamma gammaMaxBytes
  rw [packMsb_length]
  have := flatMap_length_le gamma 127 xs (fun v hv => by rw [gamma_length]; exact gammaBits_le v (h v hv).2)
  omega

theorem encDelta_length_le (xs : List Nat) (h : Pos64 xs) : (encDelta xs).length ≤ deltaMaxBytes xs.length := by
  unfold encDelta deltaMaxBytes
  rw [packMsb_length]
  have := flatMap_length_le delta 76 xs (fun v hv => by rw [delta_length]; exact deltaBits_le v (h v hv).2)
  omega

theorem encGamma_lt (xs : List Nat) : ∀ b ∈ encGamma xs, b < 256 := packMsb_lt _
theorem encDelta_lt (xs : List Nat) : ∀ b ∈ encDelta xs, b < 256 := packMsb_lt _

theorem decGamma_length_le_cap (bytes : List Nat) (srcBits cap : Nat) (vs : List Nat)
    (h : decGamma bytes srcBits cap = some vs) : vs.length ≤ cap :=
  decArrayAux_length _ _ _ _ _ _ h

theorem decDelta_length_le_cap (bytes : List Nat) (srcBits cap : Nat) (vs : List Nat)
    (h : decDelta bytes srcBits cap = some vs) : vs.length ≤ cap :=
  decArrayAux_length _ _ _ _ _ _ h

end Varint.Elias
