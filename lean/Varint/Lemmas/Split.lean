import Varint.Model.Split
import Varint.Lemmas.Bytes
/-
  The four split families. First what holds of one embedded level and of the var level for any tag, width and
  offset — the round trip is stated for any reader `dec` that hands a class of first bytes to `decLevel` / `decVar` —
  then varintSplit by case analysis on its thresholds (which arm its reader takes is shown at each use), and the three
  families with three embedded levels once, for any functions of their common shape (`Full`).
  The reversed layouts (type byte last) likewise: `levelRev_roundtrip`, `varRev_roundtrip`, `S.decRev_encRev`, `FullRev`.
-/
namespace Varint.Split

/-! ### one embedded level -/

theorem encLevel_eq (tag k sub v : Nat) :
    encLevel tag k sub v = (tag + (v - sub) / 256 ^ k % 64) :: beBytes k (v - sub) := rfl

/-! the bytes of a level with 0 … 3 payload bytes, for a value that fits it -/

theorem encLevel_zero (tag sub v : Nat) (h : v - sub < 64) : encLevel tag 0 sub v = [tag + (v - sub)] := by
  rw [encLevel_eq, Nat.pow_zero, Nat.div_one, Nat.mod_eq_of_lt h]
  rfl

theorem encLevel_one (tag sub v : Nat) (h : (v - sub) / 256 < 64) :
    encLevel tag 1 sub v = [tag + (v - sub) / 256, (v - sub) % 256] := by
  rw [encLevel_eq, Nat.pow_one, Nat.mod_eq_of_lt h, beBytes_one]

theorem encLevel_two (tag sub v : Nat) (h : (v - sub) / 65536 < 64) :
    encLevel tag 2 sub v = [tag + (v - sub) / 65536, (v - sub) / 256 % 256, (v - sub) % 256] := by
  rw [encLevel_eq, show 256 ^ 2 = 65536 from rfl, Nat.mod_eq_of_lt h, beBytes, beBytes_one, Nat.pow_one]

theorem encLevel_three (tag sub v : Nat) (h : (v - sub) / 16777216 < 64) :
    encLevel tag 3 sub v =
      [tag + (v - sub) / 16777216, (v - sub) / 65536 % 256, (v - sub) / 256 % 256, (v - sub) % 256] := by
  rw [encLevel_eq, show 256 ^ 3 = 16777216 from rfl, Nat.mod_eq_of_lt h, beBytes, beBytes, beBytes_one, Nat.pow_one]

theorem encLevel_length (tag k sub v : Nat) : (encLevel tag k sub v).length = 1 + k := by
  rw [encLevel_eq, List.length_cons, beBytes_length, Nat.add_comm]

theorem encLevel_lt (tag k sub v : Nat) (ht : tag ≤ 192) : ∀ b ∈ encLevel tag k sub v, b < 256 := by
  intro b hb
  rw [encLevel_eq, List.mem_cons] at hb
  rcases hb with h | h
  · omega
  · exact beBytes_lt _ _ b h

/-- what `decLevel` returns, when it returns -/
theorem decLevel_some {k sub b0 : Nat} {rest : List Nat} {v l : Nat} (h : decLevel k sub b0 rest = some (v, l)) :
    k ≤ rest.length ∧ l = 1 + k ∧ v = (b0 % 64 * 256 ^ k + ofBe (rest.take k) + sub) % 2 ^ 64 := by
  unfold decLevel takeExact at h
  split at h
  · simp only [Option.map_some, Option.some.injEq, Prod.mk.injEq] at h
    exact ⟨by assumption, h.2.symm, h.1.symm⟩
  · simp at h

theorem decLevel_enc' (k sub v b0 : Nat) (rest : List Nat)
    (hsub : sub ≤ v) (hb : b0 % 64 = (v - sub) / 256 ^ k) (hv : v < 2 ^ 64) :
    decLevel k sub b0 (beBytes k (v - sub) ++ rest) = some (v, 1 + k) := by
  unfold decLevel
  rw [takeExact_append _ _ (beBytes_length _ _)]
  simp only [Option.map_some, ofBe_beBytes]
  have := Nat.div_add_mod (v - sub) (256 ^ k)
  have e : b0 % 64 * 256 ^ k + (v - sub) % 256 ^ k + sub = v := by
    rw [hb, Nat.mul_comm]; omega
  rw [e, Nat.mod_eq_of_lt hv]

theorem decLevel_enc (k sub v q : Nat) (rest : List Nat)
    (hsub : sub ≤ v) (hq : q = (v - sub) / 256 ^ k) (hq64 : q < 64) (hv : v < 2 ^ 64) :
    decLevel k sub q (beBytes k (v - sub) ++ rest) = some (v, 1 + k) :=
  decLevel_enc' k sub v q rest hsub (by rw [Nat.mod_eq_of_lt hq64, hq]) hv

/-- a reader that hands the first bytes `[tag, tag + 64)` to `decLevel k sub` reads back what `encLevel tag k sub`
    wrote, as long as the value fits the level's 6 + 8k bits -/
theorem level_roundtrip {dec : List Nat → Option (Nat × Nat)} {tag k sub : Nat} (htag : tag % 64 = 0)
    (v : Nat) (rest : List Nat) (hsub : sub ≤ v) (hq : (v - sub) / 256 ^ k < 64) (hv : v < 2 ^ 64)
    (hdec : ∀ b0 rest, tag ≤ b0 → b0 < tag + 64 → dec (b0 :: rest) = decLevel k sub b0 rest) :
    dec (encLevel tag k sub v ++ rest) = some (v, (encLevel tag k sub v).length) := by
  rw [encLevel_length, encLevel_eq, List.cons_append]
  generalize hqd : (v - sub) / 256 ^ k = q at hq ⊢
  rw [hdec _ _ (by omega) (by omega)]
  exact decLevel_enc' k sub v _ rest hsub (by omega) hv

/-! ### the var level -/

/-- width chosen by the var level -/
def varW (varSub minW v : Nat) : Nat := if extLen (v - varSub) < minW then minW else extLen (v - varSub)

theorem encVar_eq (varTag varSub minW v : Nat) :
    encVar varTag varSub minW v = (varTag + varW varSub minW v) :: leBytes (varW varSub minW v) (v - varSub) := rfl

theorem varW_eq_max (varSub minW v : Nat) : varW varSub minW v = max minW (extLen (v - varSub)) := by
  unfold varW
  split
  · rw [Nat.max_eq_left (by omega)]
  · rw [Nat.max_eq_right (by omega)]

theorem lenVar_eq (varSub minW v : Nat) : lenVar varSub minW v = 1 + varW varSub minW v := rfl

theorem le_varW (varSub minW v : Nat) : minW ≤ varW varSub minW v :=
  varW_eq_max varSub minW v ▸ Nat.le_max_left _ _

theorem extLen_le_varW (varSub minW v : Nat) : extLen (v - varSub) ≤ varW varSub minW v :=
  varW_eq_max varSub minW v ▸ Nat.le_max_right _ _

theorem varW_bounds (varSub minW v : Nat) (hv : v < 2 ^ 64) (hm8 : minW ≤ 8) :
    minW ≤ varW varSub minW v ∧ varW varSub minW v ≤ 8 ∧ v - varSub < 256 ^ varW varSub minW v := by
  refine ⟨le_varW _ _ _, ?_, ?_⟩
  · unfold varW
    split
    · exact hm8
    · exact extLen_le_8 (by omega)
  · exact lt_pow_of_extLen_le (extLen_le_varW _ _ _)

theorem lenVar_bounds (varSub minW v : Nat) (hv : v < 2 ^ 64) (hm8 : minW ≤ 8) :
    1 + minW ≤ lenVar varSub minW v ∧ lenVar varSub minW v ≤ 9 := by
  obtain ⟨h1, h8, _⟩ := varW_bounds varSub minW v hv hm8
  rw [lenVar_eq]
  omega

theorem encVar_length (varTag varSub minW v : Nat) : (encVar varTag varSub minW v).length = lenVar varSub minW v := by
  rw [encVar_eq, lenVar_eq, List.length_cons, leBytes_length, Nat.add_comm]

theorem encVar_lt (varTag varSub minW v : Nat) (hv : v < 2 ^ 64) (ht : varTag ≤ 192) (hm8 : minW ≤ 8) :
    ∀ b ∈ encVar varTag varSub minW v, b < 256 := by
  intro b hb
  obtain ⟨_, hw8, _⟩ := varW_bounds varSub minW v hv hm8
  rw [encVar_eq, List.mem_cons] at hb
  rcases hb with h | h
  · omega
  · exact leBytes_lt _ _ b h

/-- what `decVar` returns, when it returns -/
theorem decVar_some {varSub w : Nat} {rest : List Nat} {v l : Nat} (h : decVar varSub w rest = some (v, l)) :
    w ≤ rest.length ∧ l = 1 + w ∧ v = (ofLe (rest.take w) + varSub) % 2 ^ 64 := by
  unfold decVar takeExact at h
  split at h
  · simp only [Option.map_some, Option.some.injEq, Prod.mk.injEq] at h
    exact ⟨by assumption, h.2.symm, h.1.symm⟩
  · simp at h

theorem decVar_enc (varSub w v : Nat) (rest : List Nat)
    (hsub : varSub ≤ v) (hw : v - varSub < 256 ^ w) (hv : v < 2 ^ 64) :
    decVar varSub w (leBytes w (v - varSub) ++ rest) = some (v, 1 + w) := by
  unfold decVar
  rw [takeExact_append _ _ (leBytes_length _ _)]
  simp only [Option.map_some, ofLe_leBytes_of_lt hw]
  have e : v - varSub + varSub = v := by omega
  rw [e, Nat.mod_eq_of_lt hv]

/-- a reader that takes the width from the first byte `varTag + w` (as `b0 % m`) and hands the rest to `decVar varSub`
    reads back what `encVar varTag varSub minW` wrote -/
theorem var_roundtrip {dec : List Nat → Option (Nat × Nat)} {varTag varSub : Nat} (m : Nat)
    (hm : ∀ w, w ≤ 8 → (varTag + w) % m = w) (minW : Nat) (h8 : minW ≤ 8)
    (v : Nat) (rest : List Nat) (hsub : varSub ≤ v) (hv : v < 2 ^ 64)
    (hdec : ∀ b0 rest, varTag ≤ b0 → b0 < varTag + 64 → dec (b0 :: rest) = decVar varSub (b0 % m) rest) :
    dec (encVar varTag varSub minW v ++ rest) = some (v, (encVar varTag varSub minW v).length) := by
  obtain ⟨_, hw8, hwlt⟩ := varW_bounds varSub minW v hv h8
  rw [encVar_length, lenVar_eq, encVar_eq, List.cons_append, hdec _ _ (by omega) (by omega), hm _ hw8]
  exact decVar_enc varSub _ v rest hsub hwlt hv

/-! ### the reversed layouts: payload little-endian, type byte last -/

theorem encLevelRev_reverse (tag k sub v : Nat) : (encLevelRev tag k sub v).reverse = encLevel tag k sub v := by
  simp only [encLevelRev, encLevel, List.reverse_append, List.reverse_cons, List.reverse_nil, List.nil_append,
    List.singleton_append, leBytes_reverse]

theorem encLevelRev_length (tag k sub v : Nat) : (encLevelRev tag k sub v).length = 1 + k := by
  rw [← List.length_reverse, encLevelRev_reverse, encLevel_length]

theorem encVarRev_reverse (varTag varSub minW v : Nat) :
    (encVarRev varTag varSub minW v).reverse
      = (varTag + varW varSub minW v) :: beBytes (varW varSub minW v) (v - varSub) := by
  simp only [encVarRev, varW, List.reverse_append, List.reverse_cons, List.reverse_nil, List.nil_append,
    List.singleton_append, leBytes_reverse]

theorem encVarRev_length (varTag varSub minW v : Nat) : (encVarRev varTag varSub minW v).length = lenVar varSub minW v := by
  rw [← List.length_reverse, encVarRev_reverse, lenVar_eq, List.length_cons, beBytes_length, Nat.add_comm]

theorem decVarRev_enc (varSub w v : Nat) (rest : List Nat)
    (hsub : varSub ≤ v) (hw : v - varSub < 256 ^ w) (hv : v < 2 ^ 64) :
    decVarRev varSub w (beBytes w (v - varSub) ++ rest) = some (v, 1 + w) := by
  unfold decVarRev
  rw [takeExact_append _ _ (beBytes_length _ _)]
  simp only [Option.map_some, ofBe_beBytes_of_lt hw]
  have e : v - varSub + varSub = v := by omega
  rw [e, Nat.mod_eq_of_lt hv]

/-- `level_roundtrip` for a reader that starts from the last byte -/
theorem levelRev_roundtrip {decRev : List Nat → Option (Nat × Nat)} {tag k sub : Nat} (htag : tag % 64 = 0)
    (v : Nat) (pre : List Nat) (hsub : sub ≤ v) (hq : (v - sub) / 256 ^ k < 64) (hv : v < 2 ^ 64)
    (hdec : ∀ bs b0 r, bs.reverse = b0 :: r → tag ≤ b0 → b0 < tag + 64 → decRev bs = decLevel k sub b0 r) :
    decRev (pre ++ encLevelRev tag k sub v) = some (v, 1 + k) := by
  have hr : (pre ++ encLevelRev tag k sub v).reverse
      = (tag + (v - sub) / 256 ^ k % 64) :: (beBytes k (v - sub) ++ pre.reverse) := by
    rw [List.reverse_append, encLevelRev_reverse, encLevel_eq, List.cons_append]
  generalize hqd : (v - sub) / 256 ^ k = q at hq hr
  rw [hdec _ _ _ hr (by omega) (by omega)]
  exact decLevel_enc' k sub v _ _ hsub (by omega) hv

/-- `var_roundtrip` for a reader that starts from the last byte -/
theorem varRev_roundtrip {decRev : List Nat → Option (Nat × Nat)} {varTag varSub : Nat} (m : Nat)
    (hm : ∀ w, w ≤ 8 → (varTag + w) % m = w) (minW : Nat) (h8 : minW ≤ 8)
    (v : Nat) (pre : List Nat) (hsub : varSub ≤ v) (hv : v < 2 ^ 64)
    (hdec : ∀ bs b0 r, bs.reverse = b0 :: r → varTag ≤ b0 → b0 < varTag + 64 →
      decRev bs = decVarRev varSub (b0 % m) r) :
    decRev (pre ++ encVarRev varTag varSub minW v) = some (v, lenVar varSub minW v) := by
  obtain ⟨_, hw8, hwlt⟩ := varW_bounds varSub minW v hv h8
  have hr : (pre ++ encVarRev varTag varSub minW v).reverse
      = (varTag + varW varSub minW v) :: (beBytes (varW varSub minW v) (v - varSub) ++ pre.reverse) := by
    rw [List.reverse_append, encVarRev_reverse, List.cons_append]
  rw [hdec _ _ _ hr (by omega) (by omega), hm _ hw8, lenVar_eq]
  exact decVarRev_enc varSub _ v _ hsub hwlt hv

/-! ### varintSplit -/

theorem S.dec_enc (v : Nat) (hv : v < 2 ^ 64) (rest : List Nat) :
    S.dec (S.enc v ++ rest) = some (v, (S.enc v).length) := by
  unfold S.enc
  split
  · exact level_roundtrip rfl v rest (by omega) (by omega) hv fun _ _ _ _ => by
      rw [S.dec, if_pos (by omega)]
  split
  · exact level_roundtrip rfl v rest (by omega) (by omega) hv fun _ _ _ _ => by
      rw [S.dec, if_neg (by omega), if_pos (by omega)]
  · exact var_roundtrip 64 (fun w _ => by omega) 1 (by omega) v rest (by omega) hv fun _ _ _ _ => by
      rw [S.dec, if_neg (by omega), if_neg (by omega), if_pos (by omega)]

theorem S.enc_length (v : Nat) : (S.enc v).length = S.len v := by
  simp only [S.enc, S.len, apply_ite List.length, encLevel_length, encVar_length]

theorem S.len_bounds (v : Nat) (hv : v < 2 ^ 64) : 1 ≤ S.len v ∧ S.len v ≤ 9 := by
  have := lenVar_bounds 16446 1 v hv (by omega)
  unfold S.len
  repeat' split
  all_goals omega

/-- the quick form reads the reserved prefix `11` as a level of its own -/
theorem S.getLenQuick_eq (b0 : Nat) (h : b0 < 192) : S.getLenQuick b0 = S.getLen b0 := by
  unfold S.getLenQuick S.getLen
  repeat' split
  all_goals omega

theorem S.getLen_head (v : Nat) (hv : v < 2 ^ 64) :
    S.getLen ((S.enc v).headD 0) = S.len v ∧ S.getLenQuick ((S.enc v).headD 0) = S.len v := by
  unfold S.enc S.len
  split
  · rw [encLevel_eq, List.headD_cons, S.getLenQuick_eq _ (by omega), S.getLen, if_pos (by omega)]
    exact ⟨rfl, rfl⟩
  split
  · rw [encLevel_eq, List.headD_cons, S.getLenQuick_eq _ (by omega), S.getLen, if_neg (by omega), if_pos (by omega)]
    exact ⟨rfl, rfl⟩
  · obtain ⟨_, hw8, _⟩ := varW_bounds 16446 1 v hv (by omega)
    rw [encVar_eq, lenVar_eq, List.headD_cons, S.getLenQuick_eq _ (by omega), S.getLen, if_neg (by omega),
      if_neg (by omega), if_pos (by omega)]
    omega

/-- a first byte in `[128, 192)` comes from the var level, and its low six bits are the width -/
theorem S.var_head (v : Nat) (hv : v < 2 ^ 64) (rest : List Nat) :
    ∀ b0 r, S.enc v ++ rest = b0 :: r → 128 ≤ b0 → b0 < 192 → b0 % 64 ≤ 8 := by
  intro b0 r hbr hlo _
  obtain ⟨_, hw8, _⟩ := varW_bounds 16446 1 v hv (by omega)
  unfold S.enc at hbr
  split at hbr
  · rw [encLevel_eq, List.cons_append, List.cons.injEq] at hbr
    omega
  split at hbr
  · rw [encLevel_eq, List.cons_append, List.cons.injEq] at hbr
    omega
  · rw [encVar_eq, List.cons_append, List.cons.injEq] at hbr
    omega

theorem S.enc_lt (v : Nat) (hv : v < 2 ^ 64) : ∀ b ∈ S.enc v, b < 256 := by
  unfold S.enc
  split
  · exact encLevel_lt 0 0 0 v (by omega)
  split
  · exact encLevel_lt 64 1 63 v (by omega)
  · exact encVar_lt 128 16446 1 v hv (by omega) (by omega)

theorem S.encRev_length (v : Nat) : (S.encRev v).length = S.len v := by
  simp only [S.encRev, S.len, apply_ite List.length, encLevelRev_length, encVarRev_length]

theorem S.decRev_encRev (v : Nat) (hv : v < 2 ^ 64) (pre : List Nat) :
    S.decRev (pre ++ S.encRev v) = some (v, S.len v) := by
  unfold S.encRev S.len
  split
  · exact levelRev_roundtrip rfl v pre (by omega) (by omega) hv fun _ _ _ hr _ _ => by
      simp only [S.decRev, hr]
      rw [if_pos (by omega)]
  split
  · exact levelRev_roundtrip rfl v pre (by omega) (by omega) hv fun _ _ _ hr _ _ => by
      simp only [S.decRev, hr]
      rw [if_neg (by omega), if_pos (by omega)]
  · exact varRev_roundtrip 64 (fun w _ => by omega) 1 (by omega) v pre (by omega) hv fun _ _ _ hr _ _ => by
      simp only [S.decRev, hr]
      rw [if_neg (by omega), if_neg (by omega), if_pos (by omega)]

/-! ### three embedded levels and a var level behind the prefix `11` -/

/-- What varintSplitFull, -NoZero and -16 have in common, read off their definitions: level `i` has `kᵢ` extra bytes and
    holds the values up to `mᵢ` counted from the previous maximum (`s0` for the first), the var level at least `minW`
    bytes counted from `m2`.
    * `enc_eq … getLenQuick_eq`: the defining equations of the family's functions (`getLenQuick_eq` is a lemma per family);
    * `fit0 fit1 fit2`: each level's 6 + 8k bits are exactly used up, so the maxima follow from `s0` and the widths;
    * `k0_lt_k1 … k2_lt`: the widths rise, the var level never takes fewer bytes than the last embedded one and at most
      eight; `m2_lt` keeps every sum below 2^64 (used for canonicity only). -/
structure Full (enc : Nat → List Nat) (len : Nat → Nat) (dec : List Nat → Option (Nat × Nat))
    (getLen getLenQuick : Nat → Nat) (k0 k1 k2 s0 m0 m1 m2 minW : Nat) : Prop where
  enc_eq : ∀ v, enc v = if v ≤ m0 then encLevel 0 k0 s0 v else if v ≤ m1 then encLevel 64 k1 m0 v
    else if v ≤ m2 then encLevel 128 k2 m1 v else encVar 192 m2 minW v
  len_eq : ∀ v, len v = if v ≤ m0 then 1 + k0 else if v ≤ m1 then 1 + k1 else if v ≤ m2 then 1 + k2
    else lenVar m2 minW v
  dec_nil : dec [] = none
  dec_cons : ∀ b0 rest, dec (b0 :: rest) = if b0 < 64 then decLevel k0 s0 b0 rest
    else if b0 < 128 then decLevel k1 m0 b0 rest else if b0 < 192 then decLevel k2 m1 b0 rest
    else decVar m2 (b0 % 16) rest
  getLen_eq : ∀ b0, getLen b0 = if b0 < 64 then 1 + k0 else if b0 < 128 then 1 + k1 else if b0 < 192 then 1 + k2
    else 1 + b0 % 16
  getLenQuick_eq : ∀ b0, getLenQuick b0 = getLen b0
  fit0 : s0 + 64 * 256 ^ k0 = m0 + 1
  fit1 : m0 + 64 * 256 ^ k1 = m1 + 1
  fit2 : m1 + 64 * 256 ^ k2 = m2 + 1
  k0_lt_k1 : k0 < k1
  k1_lt_k2 : k1 < k2
  k2_le_minW : k2 ≤ minW
  minW_le : minW ≤ 8
  k2_lt : k2 < 8
  m2_lt : m2 < 2 ^ 32

/-- the reversed writer and reader of such a family (varintSplitFull and -NoZero have them) -/
structure FullRev (encRev : Nat → List Nat) (decRev : List Nat → Option (Nat × Nat))
    (k0 k1 k2 s0 m0 m1 m2 minW : Nat) : Prop where
  encRev_eq : ∀ v, encRev v = if v ≤ m0 then encLevelRev 0 k0 s0 v else if v ≤ m1 then encLevelRev 64 k1 m0 v
    else if v ≤ m2 then encLevelRev 128 k2 m1 v else encVarRev 192 m2 minW v
  decRev_eq : ∀ bs b0 r, bs.reverse = b0 :: r → decRev bs = if b0 < 64 then decLevel k0 s0 b0 r
    else if b0 < 128 then decLevel k1 m0 b0 r else if b0 < 192 then decLevel k2 m1 b0 r
    else decVarRev m2 (b0 % 16) r

namespace Full
variable {enc : Nat → List Nat} {len : Nat → Nat} {dec : List Nat → Option (Nat × Nat)} {getLen getLenQuick : Nat → Nat}
  {k0 k1 k2 s0 m0 m1 m2 minW : Nat} (h : Full enc len dec getLen getLenQuick k0 k1 k2 s0 m0 m1 m2 minW)
include h

theorem dec_enc (v : Nat) (hv : v < 2 ^ 64) (hs : s0 ≤ v) (rest : List Nat) :
    dec (enc v ++ rest) = some (v, (enc v).length) := by
  have f0 := h.fit0
  have f1 := h.fit1
  have f2 := h.fit2
  rw [h.enc_eq]
  split
  · exact level_roundtrip rfl v rest hs (Nat.div_lt_of_lt_mul (by omega)) hv fun _ _ _ _ => by
      rw [h.dec_cons, if_pos (by omega)]
  split
  · exact level_roundtrip rfl v rest (by omega) (Nat.div_lt_of_lt_mul (by omega)) hv fun _ _ _ _ => by
      rw [h.dec_cons, if_neg (by omega), if_pos (by omega)]
  split
  · exact level_roundtrip rfl v rest (by omega) (Nat.div_lt_of_lt_mul (by omega)) hv fun _ _ _ _ => by
      rw [h.dec_cons, if_neg (by omega), if_neg (by omega), if_pos (by omega)]
  · exact var_roundtrip 16 (fun w _ => by omega) minW h.minW_le v rest (by omega) hv fun _ _ _ _ => by
      rw [h.dec_cons, if_neg (by omega), if_neg (by omega), if_neg (by omega)]

theorem enc_length (v : Nat) : (enc v).length = len v := by
  simp only [h.enc_eq, h.len_eq, apply_ite List.length, encLevel_length, encVar_length]

theorem len_bounds (v : Nat) (hv : v < 2 ^ 64) : 1 + k0 ≤ len v ∧ len v ≤ 9 := by
  have := lenVar_bounds m2 minW v hv h.minW_le
  have := h.k0_lt_k1
  have := h.k1_lt_k2
  have := h.k2_le_minW
  have := h.k2_lt
  rw [h.len_eq]
  repeat' split
  all_goals omega

theorem getLen_head (v : Nat) (hv : v < 2 ^ 64) :
    getLen ((enc v).headD 0) = len v ∧ getLenQuick ((enc v).headD 0) = len v := by
  rw [h.getLenQuick_eq, and_self, h.enc_eq, h.len_eq]
  split
  · rw [encLevel_eq, List.headD_cons, h.getLen_eq, if_pos (by omega)]
  split
  · rw [encLevel_eq, List.headD_cons, h.getLen_eq, if_neg (by omega), if_pos (by omega)]
  split
  · rw [encLevel_eq, List.headD_cons, h.getLen_eq, if_neg (by omega), if_neg (by omega), if_pos (by omega)]
  · obtain ⟨_, hw8, _⟩ := varW_bounds m2 minW v hv h.minW_le
    rw [encVar_eq, lenVar_eq, List.headD_cons, h.getLen_eq, if_neg (by omega), if_neg (by omega), if_neg (by omega)]
    omega

theorem enc_lt (v : Nat) (hv : v < 2 ^ 64) : ∀ b ∈ enc v, b < 256 := by
  rw [h.enc_eq]
  split
  · exact encLevel_lt 0 k0 s0 v (by omega)
  split
  · exact encLevel_lt 64 k1 m0 v (by omega)
  split
  · exact encLevel_lt 128 k2 m1 v (by omega)
  · exact encVar_lt 192 m2 minW v hv (by omega) h.minW_le

/-- only the var level writes a first byte from 192 on, and its low four bits are the width -/
theorem var_head (v : Nat) (hv : v < 2 ^ 64) (rest : List Nat) :
    ∀ b0 r, enc v ++ rest = b0 :: r → 192 ≤ b0 → b0 % 16 ≤ 8 := by
  intro b0 r hbr hlo
  obtain ⟨_, hw8, _⟩ := varW_bounds m2 minW v hv h.minW_le
  rw [h.enc_eq] at hbr
  split at hbr
  · rw [encLevel_eq, List.cons_append, List.cons.injEq] at hbr
    omega
  split at hbr
  · rw [encLevel_eq, List.cons_append, List.cons.injEq] at hbr
    omega
  split at hbr
  · rw [encLevel_eq, List.cons_append, List.cons.injEq] at hbr
    omega
  · rw [encVar_eq, List.cons_append, List.cons.injEq] at hbr
    omega

variable {encRev : Nat → List Nat} {decRev : List Nat → Option (Nat × Nat)}
  (hr : FullRev encRev decRev k0 k1 k2 s0 m0 m1 m2 minW)
include hr

theorem encRev_length (v : Nat) : (encRev v).length = len v := by
  simp only [hr.encRev_eq, h.len_eq, apply_ite List.length, encLevelRev_length, encVarRev_length]

theorem decRev_encRev (v : Nat) (hv : v < 2 ^ 64) (hs : s0 ≤ v) (pre : List Nat) :
    decRev (pre ++ encRev v) = some (v, len v) := by
  have f0 := h.fit0
  have f1 := h.fit1
  have f2 := h.fit2
  rw [hr.encRev_eq, h.len_eq]
  split
  · exact levelRev_roundtrip rfl v pre hs (Nat.div_lt_of_lt_mul (by omega)) hv fun _ _ _ e _ _ => by
      rw [hr.decRev_eq _ _ _ e, if_pos (by omega)]
  split
  · exact levelRev_roundtrip rfl v pre (by omega) (Nat.div_lt_of_lt_mul (by omega)) hv fun _ _ _ e _ _ => by
      rw [hr.decRev_eq _ _ _ e, if_neg (by omega), if_pos (by omega)]
  split
  · exact levelRev_roundtrip rfl v pre (by omega) (Nat.div_lt_of_lt_mul (by omega)) hv fun _ _ _ e _ _ => by
      rw [hr.decRev_eq _ _ _ e, if_neg (by omega), if_neg (by omega), if_pos (by omega)]
  · exact varRev_roundtrip 16 (fun w _ => by omega) minW h.minW_le v pre (by omega) hv fun _ _ _ e _ _ => by
      rw [hr.decRev_eq _ _ _ e, if_neg (by omega), if_neg (by omega), if_neg (by omega)]

end Full

/-! ### varintSplitFull -/

theorem F.getLenQuick_eq (b0 : Nat) : F.getLenQuick b0 = F.getLen b0 := by
  unfold F.getLenQuick F.getLen
  repeat' split
  all_goals omega

theorem F.full : Full F.enc F.len F.dec F.getLen F.getLenQuick 0 1 2 0 63 16446 4210749 2 :=
  ⟨fun _ => rfl, fun _ => rfl, rfl, fun _ _ => rfl, fun _ => rfl, F.getLenQuick_eq, by decide, by decide, by decide,
    by decide, by decide, by decide, by decide, by decide, by decide⟩

theorem F.fullRev : FullRev F.encRev F.decRev 0 1 2 0 63 16446 4210749 2 :=
  ⟨fun _ => rfl, fun _ _ _ e => by simp only [F.decRev, e]⟩

/-! ### varintSplitFullNoZero -/

theorem NZ.getLenQuick_eq (b0 : Nat) : NZ.getLenQuick b0 = NZ.getLen b0 := by
  unfold NZ.getLenQuick NZ.getLen
  repeat' split
  all_goals omega

theorem NZ.full : Full NZ.enc NZ.len NZ.dec NZ.getLen NZ.getLenQuick 0 1 2 1 64 16447 4210750 2 :=
  ⟨fun _ => rfl, fun _ => rfl, rfl, fun _ _ => rfl, fun _ => rfl, NZ.getLenQuick_eq, by decide, by decide, by decide,
    by decide, by decide, by decide, by decide, by decide, by decide⟩

theorem NZ.fullRev : FullRev NZ.encRev NZ.decRev 0 1 2 1 64 16447 4210750 2 :=
  ⟨fun _ => rfl, fun _ _ _ e => by simp only [NZ.decRev, e]⟩

/-! ### varintSplitFull16 -/

theorem S16.getLenQuick_eq (b0 : Nat) : S16.getLenQuick b0 = S16.getLen b0 := by
  unfold S16.getLenQuick S16.getLen
  repeat' split
  all_goals omega

theorem S16.full : Full S16.enc S16.len S16.dec S16.getLen S16.getLenQuick 1 2 3 0 16383 4210686 1077952509 4 :=
  ⟨fun _ => rfl, fun _ => rfl, rfl, fun _ _ => rfl, fun _ => rfl, S16.getLenQuick_eq, by decide, by decide, by decide,
    by decide, by decide, by decide, by decide, by decide, by decide⟩

end Varint.Split
