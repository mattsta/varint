import Varint.Model.Bounded
import Varint.Model.RLE
import Varint.Model.BP128
import Varint.Model.Chained
import Varint.Model.Dict
import Varint.Model.Packed
import Varint.Lemmas.Bounded
import Varint.Lemmas.BP128
/- Fuel adequacy: every fuel-indexed loop of the models (the decoders, the encoder loops `BP128.blocks` and
   `ChainedSimple.encAux`, the searches `Dict.find` and `Packed.bsearch`) is independent of its fuel from the
   amount the top-level function passes (so the default returned on exhaustion is never observed). -/
namespace Varint.Bounded
open Varint.Tagged (GetR getN)

theorem runCountAux_fuel (bs : List Nat) (rem : Nat) (f g : Nat) (hf : rem < f) (hg : rem < g) :
    runCountAux f bs rem = runCountAux g bs rem := by
  induction f generalizing g bs rem with
  | zero => omega
  | succ f ih =>
    cases g with
    | zero => omega
    | succ g =>
      unfold runCountAux
      by_cases h0 : rem = 0
      · rw [if_pos h0, if_pos h0]
      · rw [if_neg h0, if_neg h0]
        cases h1 : getN bs ((min rem int32Max : Nat) : Int) with
        | fault => rfl
        | short => rfl
        | ok runLen w1 =>
          simp only []
          cases h2 : getN (bs.drop w1) (((min rem int32Max : Nat) : Int) - (w1 : Int)) with
          | fault => rfl
          | short => rfl
          | ok v2 w2 =>
            simp only []
            by_cases h3 : runLen = 0
            · rw [if_pos h3, if_pos h3]
            · rw [if_neg h3, if_neg h3]
              have hw1 := getN_ok_spec _ _ _ _ h1
              rw [ih (bs.drop (w1 + w2)) (rem - (w1 + w2)) g (by omega) (by omega)]

theorem runCount_fuel_suffices (bs : List Nat) (f : Nat) (hf : bs.length < f) :
    runCountAux f bs bs.length = runCount bs := by
  unfold runCount
  exact runCountAux_fuel bs bs.length f (bs.length + 1) hf (by omega)

end Varint.Bounded

namespace Varint.Elias

/-- the zero counter of the gamma decoder stops at 63, so any fuel ≥ 64 - z is never exhausted -/
theorem gammaDecAux_fuel (rd : Reader) (total : Nat) (f g z pos : Nat) (hz : z ≤ 63)
    (hf : 64 ≤ z + f) (hg : 64 ≤ z + g) :
    gammaDecAux rd total f z pos = gammaDecAux rd total g z pos := by
  induction f generalizing g z pos with
  | zero => omega
  | succ f ih =>
    cases g with
    | zero => omega
    | succ g =>
      unfold gammaDecAux
      by_cases h0 : pos + 1 > total
      · rw [if_pos h0, if_pos h0]
      · rw [if_neg h0, if_neg h0]
        cases h1 : rd pos with
        | none => rfl
        | some b =>
          cases b with
          | true => rfl
          | false =>
            simp only []
            by_cases h2 : z + 1 > 63
            · rw [if_pos h2, if_pos h2]
            · rw [if_neg h2, if_neg h2]
              exact ih g (z + 1) (pos + 1) (by omega) (by omega) (by omega)

theorem gammaDec_fuel_suffices (rd : Reader) (total : Nat) (f pos : Nat) (hf : 64 ≤ f) :
    gammaDecAux rd total f 0 pos = gammaDec rd total pos := by
  unfold gammaDec
  exact gammaDecAux_fuel rd total f 65 0 pos (by omega) (by omega) (by omega)

end Varint.Elias

namespace Varint.RLE
open Varint.Tagged (GetR getN)

theorem getRun_length (bs : List Nat) (l v : Nat) (rest : List Nat) (h : getRun bs = some (l, v, rest)) :
    rest.length + 2 ≤ bs.length := by
  unfold getRun Tagged.get at h
  cases h1 : getN bs 9 with
  | fault => rw [h1] at h; simp at h
  | short => rw [h1] at h; simp at h
  | ok l' n1 =>
    rw [h1] at h
    simp only [] at h
    cases h2 : getN (bs.drop n1) 9 with
    | fault => rw [h2] at h; simp at h
    | short => rw [h2] at h; simp at h
    | ok v' n2 =>
      rw [h2] at h
      simp only [Option.some.injEq, Prod.mk.injEq] at h
      obtain ⟨_, _, h5⟩ := h
      subst h5
      have a1 := Bounded.getN_ok_spec _ _ _ _ h1
      have a2 := Bounded.getN_ok_spec _ _ _ _ h2
      simp only [List.length_drop] at a2 ⊢
      omega

/-- `varintRLEDecode`: every pass that recurses writes 1 ≤ l < room values -/
theorem decAux_fuel (f g room : Nat) (bs : List Nat) (hf : room < f) (hg : room < g) :
    decAux f room bs = decAux g room bs := by
  induction f generalizing g room bs with
  | zero => omega
  | succ f ih =>
    cases g with
    | zero => omega
    | succ g =>
      unfold decAux
      by_cases h0 : room = 0
      · rw [if_pos h0, if_pos h0]
      · rw [if_neg h0, if_neg h0]
        cases h1 : getRun bs with
        | none => rfl
        | some t =>
          obtain ⟨l, v, rest⟩ := t
          simp only []
          by_cases h2 : l = 0
          · rw [if_pos h2, if_pos h2]
          · rw [if_neg h2, if_neg h2]
            by_cases h3 : l ≥ room
            · rw [if_pos h3, if_pos h3]
            · rw [if_neg h3, if_neg h3]
              rw [ih g (room - l) rest (by omega) (by omega)]

theorem dec_fuel_suffices (f cap : Nat) (bs : List Nat) (hf : cap < f) : decAux f cap bs = dec bs cap := by
  unfold dec
  exact decAux_fuel f (cap + 1) cap bs hf (by omega)

theorem decHAux_fuel_mono (f g d total cap : Nat) (bs vs : List Nat)
    (h : decHAux f d total cap bs = some vs) (hfg : f ≤ g) : decHAux g d total cap bs = some vs := by
  induction f generalizing g d bs vs with
  | zero => simp [decHAux] at h
  | succ f ih =>
    cases g with
    | zero => omega
    | succ g =>
      unfold decHAux at h ⊢
      by_cases h0 : d ≥ total ∨ d ≥ cap
      · rw [if_pos h0] at h ⊢; exact h
      · rw [if_neg h0] at h ⊢
        cases h1 : getRun bs with
        | none => rw [h1] at h; simp at h
        | some t =>
          obtain ⟨l, v, rest⟩ := t
          rw [h1] at h
          simp only [] at h ⊢
          cases h2 : decHAux f (d + min l (cap - d)) total cap rest with
          | none => rw [h2] at h; simp at h
          | some ws =>
            rw [h2] at h
            rw [ih g _ rest ws h2 (by omega)]
            exact h

/-- with more fuel than bytes the fuel is never exhausted (every pass consumes ≥ 2 bytes), so the
    `none` of the model always is a load outside the buffer, also on a stream of zero-length runs -/
theorem decHAux_fuel (f g d total cap : Nat) (bs : List Nat) (hf : bs.length < 2 * f) (hg : bs.length < 2 * g) :
    decHAux f d total cap bs = decHAux g d total cap bs := by
  induction f generalizing g d bs with
  | zero => omega
  | succ f ih =>
    cases g with
    | zero => omega
    | succ g =>
      unfold decHAux
      by_cases h0 : d ≥ total ∨ d ≥ cap
      · rw [if_pos h0, if_pos h0]
      · rw [if_neg h0, if_neg h0]
        cases h1 : getRun bs with
        | none => rfl
        | some t =>
          obtain ⟨l, v, rest⟩ := t
          simp only []
          have hl := getRun_length bs l v rest h1
          rw [ih g _ rest (by omega) (by omega)]

theorem decH_fuel_suffices (bs : List Nat) (total cap n1 f : Nat) (hf : bs.length < 2 * f) :
    decHAux f 0 total cap (bs.drop n1) = decHAux (bs.length + total + 2) 0 total cap (bs.drop n1) := by
  apply decHAux_fuel
  · simp only [List.length_drop]; omega
  · simp only [List.length_drop]; omega

theorem getAtAux_fuel_mono (f g pos i : Nat) (bs : List Nat) (r : Nat)
    (h : getAtAux f pos i bs = some r) (hfg : f ≤ g) : getAtAux g pos i bs = some r := by
  induction f generalizing g pos bs with
  | zero => simp [getAtAux] at h
  | succ f ih =>
    cases g with
    | zero => omega
    | succ g =>
      unfold getAtAux at h ⊢
      cases h1 : getRun bs with
      | none => rw [h1] at h; simp at h
      | some t =>
        obtain ⟨l, v, rest⟩ := t
        rw [h1] at h
        simp only [] at h ⊢
        by_cases h2 : l = 0
        · rw [if_pos h2] at h ⊢; exact h
        · rw [if_neg h2] at h ⊢
          by_cases h3 : pos + l > i
          · rw [if_pos h3] at h ⊢; exact h
          · rw [if_neg h3] at h ⊢
            exact ih g _ rest h (by omega)

/-- `varintRLEGetAt`: every pass that recurses advances `pos` by l ≥ 1 and keeps it ≤ i, so fuel > i + 1 - pos is
    never exhausted -/
theorem getAtAux_fuel (f g pos i : Nat) (bs : List Nat) (hf : i + 1 - pos < f) (hg : i + 1 - pos < g) :
    getAtAux f pos i bs = getAtAux g pos i bs := by
  induction f generalizing g pos bs with
  | zero => omega
  | succ f ih =>
    cases g with
    | zero => omega
    | succ g =>
      unfold getAtAux
      cases h1 : getRun bs with
      | none => rfl
      | some t =>
        obtain ⟨l, v, rest⟩ := t
        simp only []
        by_cases h2 : l = 0
        · rw [if_pos h2, if_pos h2]
        · rw [if_neg h2, if_neg h2]
          by_cases h3 : pos + l > i
          · rw [if_pos h3, if_pos h3]
          · rw [if_neg h3, if_neg h3]
            exact ih g _ rest (by omega) (by omega)

theorem getAt_fuel_suffices (f i : Nat) (bs : List Nat) (hf : i + 1 < f) : getAtAux f 0 i bs = getAt bs i := by
  unfold getAt
  exact getAtAux_fuel f (i + 2) 0 i bs (by omega) (by omega)

end Varint.RLE

namespace Varint.BP128

/-- encoder block loop: every pass that recurses drops 128 values -/
theorem blocks_fuel (f g : Nat) (xs : List Nat) (hf : xs.length / 128 < f) (hg : xs.length / 128 < g) :
    blocks f xs = blocks g xs := by
  induction f generalizing g xs with
  | zero => omega
  | succ f ih =>
    cases g with
    | zero => omega
    | succ g =>
      unfold blocks
      by_cases h0 : xs.length = 0
      · rw [if_pos h0, if_pos h0]
      · rw [if_neg h0, if_neg h0]
        by_cases h1 : xs.length ≥ 128
        · rw [if_pos h1, if_pos h1]
          rw [ih g (xs.drop 128) (by simp only [List.length_drop]; omega) (by simp only [List.length_drop]; omega)]
        · rw [if_neg h1, if_neg h1]

/-- `varintBP128Decode32`: a pass recurses only after a full block that fits (room ≥ 128) -/
theorem dec32_fuel_suffices (f cap : Nat) (bs : List Nat) (hf : cap / 128 < f) : dec32Aux f cap bs = dec32 bs cap := by
  unfold dec32
  rw [dec32Aux_eq _ _ 0, dec32Aux_eq _ _ 0]
  exact decLoop_fuel _ _ _ _ _ _ _ (by omega) (by omega)

theorem decD32_fuel_suffices (f cap prev : Nat) (bs : List Nat) (hf : cap / 128 < f) :
    decD32Aux f (cap - 1) prev bs = decD32Aux (cap / 128 + 2) (cap - 1) prev bs := by
  rw [decD32Aux_eq, decD32Aux_eq]
  exact decLoop_fuel _ _ _ _ _ _ _ (by omega) (by omega)

/-- `varintBP128DeltaDecode64`: a block with the 0x80 flag ends the stream, a full block consumes min(128, room) -/
theorem decD64_fuel_suffices (f cap prev : Nat) (bs : List Nat) (hf : cap / 128 < f) :
    decD64Aux f (cap - 1) prev bs = decD64Aux (cap / 128 + 2) (cap - 1) prev bs := by
  rw [decD64Aux_eq, decD64Aux_eq]
  exact decLoop_fuel _ _ _ _ _ _ _ (by omega) (by omega)

/-- `varintBP128Decode64`: every pass consumes at least the header byte -/
theorem dec64Aux_fuel (f g room : Nat) (bs : List Nat) (hf : bs.length < f) (hg : bs.length < g) :
    dec64Aux f room bs = dec64Aux g room bs := by
  induction f generalizing g room bs with
  | zero => omega
  | succ f ih =>
    cases g with
    | zero => omega
    | succ g =>
      unfold dec64Aux
      by_cases h0 : room = 0
      · rw [if_pos h0, if_pos h0]
      · rw [if_neg h0, if_neg h0]
        cases bs with
        | nil => rfl
        | cons h rest =>
          simp only [List.length_cons] at hf hg
          have key : ∀ r k, dec64Aux f r (List.drop k rest) = dec64Aux g r (List.drop k rest) := by
            intro r k
            apply ih
            · simp only [List.length_drop]; omega
            · simp only [List.length_drop]; omega
          have key0 : ∀ r, dec64Aux f r rest = dec64Aux g r rest := fun r => key r 0
          have key2 : ∀ r k j, dec64Aux f r (List.drop k (List.drop j rest)) = dec64Aux g r (List.drop k (List.drop j rest)) := by
            intro r k j
            apply ih
            · simp only [List.length_drop]; omega
            · simp only [List.length_drop]; omega
          simp only []
          by_cases h1 : h ≥ 128
          · simp only [if_pos h1, key, key2]
          · simp only [if_neg h1, key, key0]

theorem dec64Aux_room0 (f : Nat) (bs : List Nat) : dec64Aux f 0 bs = some [] := by
  cases f with
  | zero => rfl
  | succ f => unfold dec64Aux; rw [if_pos rfl]

theorem dec64Aux_complete_mono (f g room : Nat) (bs vs : List Nat) (h : dec64Aux f room bs = some vs)
    (hl : vs.length = room) (hfg : f ≤ g) : dec64Aux g room bs = some vs := by
  induction f generalizing g room bs vs with
  | zero =>
    cases h
    subst hl
    exact dec64Aux_room0 g bs
  | succ f ih =>
    cases g with
    | zero => omega
    | succ g =>
      unfold dec64Aux at h ⊢
      by_cases h0 : room = 0
      · rw [if_pos h0] at h ⊢; exact h
      · rw [if_neg h0] at h ⊢
        cases bs with
        | nil => simp at h
        | cons b rest =>
          simp only [] at h ⊢
          have step : ∀ (pre : List Nat) (n : Nat) (data : List Nat), pre.length = n → n ≤ room →
              Option.map (pre ++ ·) (dec64Aux f (room - n) data) = some vs →
              Option.map (pre ++ ·) (dec64Aux g (room - n) data) = some vs := by
            intro pre n data hp hn hm
            obtain ⟨ws, hws, rfl⟩ := Option.map_eq_some_iff.mp hm
            have : ws.length = room - n := by
              simp only [List.length_append] at hl; omega
            rw [ih g _ data ws hws this (by omega)]
            rfl
          generalize (if b ≥ 128 then (b % 128, rest.headD 0, rest.drop 1) else (b, 128, rest)) = trip at h ⊢
          obtain ⟨bw, blk, data⟩ := trip
          simp only [] at h ⊢
          have hn : (if blk > room then room else blk) ≤ room := by split <;> omega
          generalize (if blk > room then room else blk) = n at h hn ⊢
          by_cases h2 : b ≥ 128 ∧ rest = []
          · rw [if_pos h2] at h
            cases h
          rw [if_neg h2] at h ⊢
          by_cases h3 : bw = 0
          · rw [if_pos h3] at h ⊢
            exact step _ n _ (List.length_replicate ..) hn h
          · rw [if_neg h3] at h ⊢
            cases hu : unpack data bw n 0 with
            | none =>
              rw [hu] at h
              cases h
            | some us =>
              rw [hu] at h
              exact step _ n _ (unpack_length _ _ _ _ _ hu) hn h

/-- why the top-level fuel of `dec64` counts the bytes (`min cnt cap + bs.length + 2`): empty flagged blocks (header ≥ 128,
    count byte 0) use fuel without using room. On `[1,128,0,128,0,128,0,129,1,1]` the loop with fuel `min cnt cap + 2`
    alone gives up before the value (second part), where `dec64` evaluates like the C (first part). -/
theorem dec64_former_counterexample :
    dec64 [1, 128, 0, 128, 0, 128, 0, 129, 1, 1] 10 = some [1] ∧
    dec64Aux 3 1 [128, 0, 128, 0, 128, 0, 129, 1, 1] = some [] := by
  decide

theorem dec64_fuel_suffices (bs : List Nat) (cap cnt n1 : Nat) (hg : Tagged.get bs = .ok cnt n1) (g : Nat)
    (hfg : bs.length < g) : dec64 bs cap = dec64Aux g (min cnt cap) (bs.drop n1) := by
  unfold dec64
  rw [hg]
  exact dec64Aux_fuel _ g _ _ (by rw [List.length_drop]; omega) (by rw [List.length_drop]; omega)

end Varint.BP128

/- `extLenAux` and `len7Aux` have their fuel lemmas in Lemmas/Bytes (`extLenAux_fuel`, `len7Aux_fuel`). -/
namespace Varint.Chained

/-- the reader returns at the ninth byte (i = 8) at the latest -/
theorem decAux_fuel (f g i acc : Nat) (bs : List Nat) (hi : i ≤ 8) (hf : 9 ≤ i + f) (hg : 9 ≤ i + g) :
    decAux f i acc bs = decAux g i acc bs := by
  induction f generalizing g i acc bs with
  | zero => omega
  | succ f ih =>
    cases g with
    | zero => omega
    | succ g =>
      cases bs with
      | nil => simp [decAux]
      | cons b bs =>
        unfold decAux
        by_cases h1 : i = 8
        · rw [if_pos h1, if_pos h1]
        · rw [if_neg h1, if_neg h1]
          by_cases h2 : b < 128
          · rw [if_pos h2, if_pos h2]
          · rw [if_neg h2, if_neg h2]
            exact ih g _ _ bs (by omega) (by omega) (by omega)

theorem dec_fuel_suffices (f : Nat) (bs : List Nat) (hf : 9 ≤ f) : decAux f 0 0 bs = dec bs :=
  decAux_fuel f 9 0 0 bs (by omega) (by omega) (by omega)

end Varint.Chained

namespace Varint.ChainedSimple

theorem encAux_fuel (f g i v : Nat) (hf : 8 ≤ i + f) (hg : 8 ≤ i + g) : encAux f i v = encAux g i v := by
  induction f generalizing g i v with
  | zero =>
    cases g with
    | zero => rfl
    | succ g =>
      unfold encAux
      rw [if_neg (by omega)]
  | succ f ih =>
    cases g with
    | zero =>
      unfold encAux
      rw [if_neg (by omega)]
    | succ g =>
      unfold encAux
      by_cases h : v ≥ 128 ∧ i < 8
      · rw [if_pos h, if_pos h, ih g (i + 1) (v / 128) (by omega) (by omega)]
      · rw [if_neg h, if_neg h]

theorem enc_fuel_suffices (f v : Nat) (hf : 8 ≤ f) : encAux f 0 v = enc v :=
  encAux_fuel f 9 0 v (by omega) (by omega)

theorem decAux_fuel (f g i acc : Nat) (bs : List Nat) (hf : 9 ≤ i + f) (hf1 : 1 ≤ f) (hg : 9 ≤ i + g) (hg1 : 1 ≤ g) :
    decAux f i acc bs = decAux g i acc bs := by
  induction f generalizing g i acc bs with
  | zero => omega
  | succ f ih =>
    cases g with
    | zero => omega
    | succ g =>
      cases bs with
      | nil => simp [decAux]
      | cons b bs =>
        unfold decAux
        by_cases h : b ≥ 128 ∧ i < 8
        · rw [if_pos h, if_pos h]
          exact ih g _ _ bs (by omega) (by omega) (by omega) (by omega)
        · rw [if_neg h, if_neg h]

theorem dec_fuel_suffices (f : Nat) (bs : List Nat) (hf : 9 ≤ f) : decAux f 0 0 bs = dec bs :=
  decAux_fuel f 10 0 0 bs (by omega) (by omega) (by omega) (by omega)

end Varint.ChainedSimple

namespace Varint.Dict

/-- binary search: the window [lo, hi) shrinks strictly at every probe -/
theorem bsearch_fuel (d : Array Nat) (target f g lo hi : Nat) (hf : hi - lo < f) (hg : hi - lo < g) :
    bsearch d target f lo hi = bsearch d target g lo hi := by
  induction f generalizing g lo hi with
  | zero => omega
  | succ f ih =>
    cases g with
    | zero => omega
    | succ g =>
      unfold bsearch
      by_cases h0 : lo ≥ hi
      · rw [if_pos h0, if_pos h0]
      · rw [if_neg h0, if_neg h0]
        simp only []
        by_cases h1 : d.getD (lo + (hi - 1 - lo) / 2) 0 = target
        · rw [if_pos h1, if_pos h1]
        · rw [if_neg h1, if_neg h1]
          by_cases h2 : d.getD (lo + (hi - 1 - lo) / 2) 0 < target
          · rw [if_pos h2, if_pos h2]
            exact ih g _ _ (by omega) (by omega)
          · rw [if_neg h2, if_neg h2]
            exact ih g _ _ (by omega) (by omega)

theorem find_fuel_suffices (d : List Nat) (x f : Nat) (hf : d.length < f) :
    bsearch d.toArray x f 0 d.length = find d x :=
  bsearch_fuel d.toArray x f (d.length + 1) 0 d.length (by omega) (by omega)

end Varint.Dict

namespace Varint.Packed

theorem bsearchAux_fuel (S b : Nat) (ws : List Nat) (v f g lo hi : Nat) (hf : hi - lo < f) (hg : hi - lo < g) :
    bsearchAux S b ws v f lo hi = bsearchAux S b ws v g lo hi := by
  induction f generalizing g lo hi with
  | zero => omega
  | succ f ih =>
    cases g with
    | zero => omega
    | succ g =>
      unfold bsearchAux
      by_cases h0 : lo < hi
      · rw [if_pos h0, if_pos h0]
        simp only []
        split
        · exact ih g _ _ (by omega) (by omega)
        · exact ih g _ _ (by omega) (by omega)
      · rw [if_neg h0, if_neg h0]

theorem bsearch_fuel_suffices (S b : Nat) (ws : List Nat) (len v f : Nat) (hf : len < f) :
    bsearchAux S b ws v f 0 len = bsearch S b ws len v :=
  bsearchAux_fuel S b ws v f (len + 1) 0 len (by omega) (by omega)

end Varint.Packed
