import Varint.Lemmas.Bitmap
import Varint.Lemmas.Bytes
import Varint.Model.Bounded
/-
  More bitmap theorems: iteration order, export length, the add-range fast path and the
  serialisation round trip (encoder of Model/Bitmap against the bounded decoder of Model/Bounded).
-/
namespace Varint.Bitmap

/-! ## 1. iteration is strictly ascending -/

/-- iteration / toArray is strictly increasing: ascending and duplicate-free (no invariant needed) -/
theorem members_sorted (s : St) : List.Pairwise (· < ·) (members s) := by
  rw [members_eq]
  exact List.pairwise_lt_range.filter _

theorem members_nodup (s : St) : (members s).Nodup :=
  (members_sorted s).imp Nat.ne_of_lt

/-! ## 2. export length = cardinality -/

theorem countBelow_eq_length (b : Nat) : ∀ n, countBelow b n = ((List.range n).filter (b.testBit ·)).length
  | 0 => rfl
  | n + 1 => by
    rw [countBelow, countBelow_eq_length b n, List.range_succ, List.filter_append, List.length_append,
      List.filter_cons]
    split <;> rfl

theorem members_length_popCount (s : St) : (members s).length = popCount s.bits := by
  rw [members_eq, popCount, countBelow_eq_length]

theorem members_length (s : St) (hi : Inv s) : (members s).length = s.card := by
  rw [members_length_popCount, hi.card_eq]

/-! ## 3. ranges -/

theorem countBelow_le (b : Nat) : ∀ n, countBelow b n ≤ n
  | 0 => Nat.le_refl _
  | n + 1 => by
    have := countBelow_le b n
    simp only [countBelow]
    split <;> omega

theorem countBelow_eq_zero (b : Nat) : ∀ n, countBelow b n = 0 → ∀ i, i < n → b.testBit i = false
  | 0, _, i, hi => by omega
  | n + 1, h, i, hi => by
    simp only [countBelow] at h
    by_cases hb : b.testBit n = true
    · rw [if_pos hb] at h; omega
    · rw [if_neg hb] at h
      by_cases hin : i = n
      · subst hin; simpa using hb
      · exact countBelow_eq_zero b n (by omega) i (by omega)

theorem bits_zero_of_card_zero (s : St) (hi : Inv s) (hc : s.card = 0) : s.bits = 0 := by
  apply Nat.eq_of_testBit_eq
  intro w
  rw [Nat.zero_testBit]
  by_cases hw : w < 65536
  · exact countBelow_eq_zero s.bits 65536 (by rw [← hc, hi.card_eq]; rfl) w hw
  · exact hi.small w (by omega)

theorem testBit_range (mn mx w : Nat) :
    ((2 ^ (mx - mn) - 1) <<< mn).testBit w = (decide (mn ≤ w) && decide (w < mx)) := by
  rw [Nat.testBit_shiftLeft, Nat.testBit_two_pow_sub_one, Bool.eq_iff_iff]
  simp only [Bool.and_eq_true, decide_eq_true_eq]
  omega

theorem countBelow_range (b mn mx : Nat) (hb : ∀ w, b.testBit w = (decide (mn ≤ w) && decide (w < mx))) :
    ∀ n, n ≤ mx → countBelow b n = n - mn
  | 0, _ => (Nat.zero_sub mn).symm
  | n + 1, h => by
    rw [countBelow, countBelow_range b mn mx hb n (Nat.le_of_succ_le h), hb n,
      decide_eq_true (Nat.lt_of_succ_le h), Bool.and_true]
    by_cases h1 : mn ≤ n
    · rw [decide_eq_true h1, if_pos rfl]; omega
    · rw [decide_eq_false h1, if_neg Bool.false_ne_true]; omega

theorem countBelow_of_small (b m : Nat) (h : ∀ i, m ≤ i → b.testBit i = false) (n : Nat) (hn : m ≤ n) :
    countBelow b n = countBelow b m := by
  induction n with
  | zero => rw [Nat.le_zero.mp hn]
  | succ n ih =>
    rcases Nat.lt_or_ge n m with hlt | hge
    · rw [Nat.le_antisymm hn hlt]
    · rw [countBelow, ih hge, h n hge]
      rfl

theorem popCount_range (mn mx : Nat) (hmx : mx ≤ 65536) : popCount ((2 ^ (mx - mn) - 1) <<< mn) = mx - mn := by
  rw [popCount, countBelow_of_small _ mx (fun i hi => by
      rw [testBit_range, decide_eq_false (Nat.not_lt.mpr hi), Bool.and_false]) _ hmx,
    countBelow_range _ mn mx (testBit_range mn mx) mx (Nat.le_refl _)]

theorem mem_rangeList (mn mx w : Nat) :
    decide (w ∈ (List.range (mx - mn)).map (· + mn)) = (decide (mn ≤ w) && decide (w < mx)) := by
  rw [← Bool.decide_and, decide_eq_decide, List.mem_map]
  constructor
  · rintro ⟨a, ha, rfl⟩
    have := List.mem_range.mp ha
    omega
  · rintro ⟨h1, h2⟩
    exact ⟨w - mn, List.mem_range.mpr (by omega), by omega⟩

theorem rangeList_lt {mn mx : Nat} (hmx : mx ≤ 65536) : ∀ v ∈ (List.range (mx - mn)).map (· + mn), v < 65536 := by
  intro v hv
  obtain ⟨a, ha, rfl⟩ := List.mem_map.mp hv
  have := List.mem_range.mp ha
  omega

/-- `varintBitmapAddRange`: union with the half-open interval, on both paths; invariant preserved -/
theorem addRange_spec (s : St) (mn mx : Nat) (hmx : mx ≤ 65536) (hi : Inv s) :
    Inv (addRange s mn mx) ∧
    ∀ w, (addRange s mn mx).bits.testBit w = (s.bits.testBit w || (decide (mn ≤ w) && decide (w < mx))) := by
  unfold addRange
  by_cases h0 : mn ≥ mx
  · rw [if_pos h0]
    refine ⟨hi, fun w => ?_⟩
    rw [← Bool.decide_and, decide_eq_false (by omega), Bool.or_false]
  rw [if_neg h0]
  by_cases hf : mx - mn > arrayMax ∧ s.card = 0
  · rw [if_pos hf]
    refine ⟨⟨(popCount_range mn mx hmx).symm, fun w hw => ?_⟩, fun w => ?_⟩
    · show ((2 ^ (mx - mn) - 1) <<< mn).testBit w = false
      rw [testBit_range, decide_eq_false (show ¬ w < mx by omega), Bool.and_false]
    · show ((2 ^ (mx - mn) - 1) <<< mn).testBit w = _
      rw [testBit_range, bits_zero_of_card_zero s hi hf.2, Nat.zero_testBit, Bool.false_or]
  · rw [if_neg hf]
    obtain ⟨h1, h2⟩ := addMany_spec _ s (rangeList_lt hmx) hi
    exact ⟨h2, fun w => by rw [h1 w, mem_rangeList]⟩

/-- `varintBitmapRemoveRange`: difference with the half-open interval; invariant preserved -/
theorem removeRange_spec (s : St) (mn mx : Nat) (hmx : mx ≤ 65536) (hi : Inv s) :
    Inv (removeRange s mn mx) ∧
    ∀ w, (removeRange s mn mx).bits.testBit w = (s.bits.testBit w && !(decide (mn ≤ w) && decide (w < mx))) := by
  obtain ⟨h1, h2⟩ := removeMany_spec _ s (rangeList_lt (mn := mn) hmx) hi
  exact ⟨h2, fun w => by rw [removeRange, h1 w, mem_rangeList]⟩

theorem addRange_fast (s : St) (mn mx : Nat) (hlt : mn < mx) (hbig : mx - mn > arrayMax) (hc : s.card = 0) :
    addRange s mn mx = ⟨.runs, mx - mn, (2 ^ (mx - mn) - 1) <<< mn⟩ := by
  unfold addRange
  rw [if_neg (by omega), if_pos ⟨hbig, hc⟩]

/-! ## 4. serialisation round trip -/
open Varint.Bounded (bitmapDec BM R le32 bitmapBytes)

theorem leB_eq : ∀ (k v : Nat), leB k v = leBytes k v
  | 0, _ => rfl
  | k + 1, v => by simp only [leB, leBytes, leB_eq k]

/-- the `uint16_t` view of a byte buffer -/
def u16s : List Nat → List Nat
  | a :: b :: rest => (a + 256 * b) :: u16s rest
  | _ => []

/-- member set of an ARRAY payload -/
def bitsOfValues (vs : List Nat) : Nat := vs.foldl setBit 0

/-- member set of a RUNS payload: `(start, length)` pairs -/
def bitsOfRuns : List Nat → Nat
  | st :: ln :: rest => ((2 ^ ln - 1) <<< st) ||| bitsOfRuns rest
  | _ => 0

/-- abstraction of a decoded container to the model state -/
def ofBM (bm : BM) : Option St :=
  if bm.ty = 0 then some ⟨.array, bm.card, bitsOfValues (u16s bm.payload)⟩
  else if bm.ty = 1 then some ⟨.bitmap, bm.card, ofLe bm.payload⟩
  else if bm.ty = 2 then some ⟨.runs, bm.card, bitsOfRuns (u16s bm.payload)⟩
  else none

/-- `varintBitmapDecode(buffer, len)` with `len = bs.length`, read back as a model state -/
def decodeSt (bs : List Nat) : Option St :=
  match (bitmapDec bs).1 with
  | .ok bm => ofBM bm
  | _ => none

theorem le32_leBytes (v : Nat) (rest : List Nat) (hv : v < 256 ^ 4) : le32 (leBytes 4 v ++ rest) = .ok v := by
  unfold le32
  rw [takeExact_append _ _ (leBytes_length 4 v)]
  simp only [ofLe_leBytes_of_lt hv]

theorem bitmapDec_array (card : Nat) (p : List Nat) (hc : card < 256 ^ 4) (hp : p.length = 2 * card) :
    bitmapDec (0 :: (leBytes 4 card ++ p)) = (.ok ⟨0, card, 0, p⟩, [24, 2 * card]) := by
  unfold bitmapDec
  rw [if_neg (by simp only [List.length_cons, List.length_append, leBytes_length]; omega)]
  simp only [le32_leBytes card p hc, List.drop_left' (leBytes_length 4 card), if_true]
  rw [if_neg (by omega), takeExact_of_le (by omega), List.take_of_length_le (by omega)]

theorem bitmapDec_bitmap (card : Nat) (p rest : List Nat) (hc : card < 256 ^ 4) (hp : p.length = 8192) :
    bitmapDec (1 :: (leBytes 4 card ++ (p ++ rest))) = (.ok ⟨1, card, 0, p⟩, [24, 8192]) := by
  unfold bitmapDec
  rw [if_neg (by simp only [List.length_cons, List.length_append, leBytes_length]; omega)]
  simp only [le32_leBytes card _ hc, List.drop_left' (leBytes_length 4 card), bitmapBytes, ↓reduceIte]
  have h1 : ¬ (p ++ rest).length < 8192 := by rw [List.length_append]; omega
  rw [if_neg h1, takeExact_append p rest hp]
  rfl

theorem bitmapDec_runs1 (card : Nat) (p : List Nat) (hc : card < 256 ^ 4) (hp : p.length = 4) :
    bitmapDec (2 :: (leBytes 4 card ++ (leBytes 4 1 ++ p))) = (.ok ⟨2, card, 1, p⟩, [24, 4]) := by
  unfold bitmapDec
  rw [if_neg (by simp only [List.length_cons, List.length_append, leBytes_length]; omega)]
  have hd8 : (leBytes 4 card ++ (leBytes 4 1 ++ p)).drop 8 = p := by
    rw [← List.append_assoc]
    exact List.drop_left' (by simp only [List.length_append, leBytes_length])
  simp only [le32_leBytes card _ hc, List.drop_left' (leBytes_length 4 card), hd8,
    le32_leBytes 1 p (by omega), ↓reduceIte]
  have h1 : ¬ (leBytes 4 1 ++ p).length < 4 := by
    simp only [List.length_append, leBytes_length]; omega
  rw [if_neg h1, if_neg (show ¬ 1 > p.length / 4 by omega), takeExact_of_le (bs := p) (by omega),
    List.take_of_length_le (by omega)]
  rfl

theorem u16s_leBytes2 (v : Nat) (rest : List Nat) : u16s (leBytes 2 v ++ rest) = v % 65536 :: u16s rest := by
  show (v % 256 + 256 * (v / 256 % 256)) :: u16s rest = _
  congr 1
  omega

theorem u16s_flatMap : ∀ (vs : List Nat), (∀ v ∈ vs, v < 65536) → u16s (vs.flatMap (leBytes 2)) = vs
  | [], _ => rfl
  | v :: vs, h => by
    rw [List.flatMap_cons, u16s_leBytes2, u16s_flatMap vs fun x hx => h x (List.mem_cons_of_mem v hx),
      Nat.mod_eq_of_lt (h v (List.mem_cons_self ..))]

theorem bitsOfValues_members (s : St) (hs : ∀ w, 65536 ≤ w → s.bits.testBit w = false) :
    bitsOfValues (members s) = s.bits := by
  apply Nat.eq_of_testBit_eq
  intro w
  unfold bitsOfValues
  rw [testBit_foldl_setBit, Nat.zero_testBit, Bool.false_or, bits_of_members s hs w]

theorem card_le (s : St) (hi : Inv s) : s.card ≤ 65536 := by
  have h1 := countBelow_le s.bits 65536
  have h2 := hi.card_eq
  unfold popCount at h2
  omega

theorem card_lt (s : St) (hi : Inv s) : s.card < 256 ^ 4 :=
  Nat.lt_of_le_of_lt (card_le s hi) (by omega)

theorem bits_lt (s : St) (hi : Inv s) : s.bits < 256 ^ 8192 :=
  Nat.lt_of_lt_of_eq (Nat.lt_pow_two_of_testBit s.bits fun i h => hi.small i h) (Nat.pow_mul 2 8 8192)

/-- **round trip, ARRAY container**: the decoder accepts the encoding (declared length = its length)
    and reads back the same container type, counter and member set -/
theorem decode_encode_array (s : St) (hi : Inv s) (hty : s.ty = .array) : decodeSt (encode s) = some s := by
  have hlen := members_length s hi
  have hf : leB 2 = leBytes 2 := funext (leB_eq 2)
  have henc : encode s = 0 :: (leBytes 4 s.card ++ (members s).flatMap (leBytes 2)) := by
    unfold encode
    rw [hty]
    simp only [leB_eq, hf, List.cons_append]
  unfold decodeSt
  rw [henc, bitmapDec_array s.card _ (card_lt s hi) (by rw [length_flatMap_leBytes, hlen, Nat.mul_comm])]
  simp only [ofBM, ↓reduceIte]
  rw [u16s_flatMap _ (members_lt s), bitsOfValues_members s hi.small, ← hty]

/-- **round trip, BITMAP container** -/
theorem decode_encode_bitmap (s : St) (hi : Inv s) (hty : s.ty = .bitmap) : decodeSt (encode s) = some s := by
  have henc : encode s = 1 :: (leBytes 4 s.card ++ (leBytes 8192 s.bits ++ [])) := by
    unfold encode
    rw [hty]
    simp only [leB_eq, List.cons_append, List.append_nil]
  unfold decodeSt
  rw [henc, bitmapDec_bitmap s.card _ [] (card_lt s hi) (leBytes_length _ _)]
  simp only [ofBM, ↓reduceIte]
  rw [ofLe_leBytes, Nat.mod_eq_of_lt (bits_lt s hi), ← hty,
    if_neg (show ¬ (1 : Nat) = 0 by omega)]

/-! ### RUNS container with a single run (the shape `addRange` creates) -/

theorem head_of_sorted (l : List Nat) (m : Nat) (hs : List.Pairwise (· < ·) l) (hm : m ∈ l)
    (hmin : ∀ x ∈ l, m ≤ x) : l.head! = m := by
  cases l with
  | nil => simp at hm
  | cons x xs =>
    show x = m
    rw [List.pairwise_cons] at hs
    rcases List.mem_cons.mp hm with h | h
    · exact h.symm
    · have h1 := hs.1 m h
      have h2 := hmin x (by simp)
      omega

theorem head_members_lt (s : St) : (members s).head! < 65536 := by
  cases h : members s with
  | nil => show (0 : Nat) < 65536; omega
  | cons x xs =>
    show x < 65536
    exact members_lt s x (by rw [h]; simp)

/-- what the decoder makes of a one-run RUNS encoding: the 16-bit length field wraps -/
theorem decodeSt_runs1 (card hd ln : Nat) (hc : card < 256 ^ 4) (hhd : hd < 65536) :
    decodeSt (2 :: (leBytes 4 card ++ (leBytes 4 1 ++ (leBytes 2 hd ++ leBytes 2 ln))))
      = some ⟨.runs, card, (2 ^ (ln % 65536) - 1) <<< hd⟩ := by
  unfold decodeSt
  rw [bitmapDec_runs1 card _ hc (by simp only [List.length_append, leBytes_length])]
  show some (St.mk .runs card (bitsOfRuns (u16s (leBytes 2 hd ++ leBytes 2 ln)))) = _
  rw [← List.append_nil (leBytes 2 ln), u16s_leBytes2, u16s_leBytes2, Nat.mod_eq_of_lt hhd]
  exact congrArg (fun b => some (St.mk .runs card b)) (Nat.or_zero _)

theorem encode_runs (s : St) (hty : s.ty = .runs) :
    encode s = 2 :: (leBytes 4 s.card ++ (leBytes 4 1 ++ (leBytes 2 (members s).head! ++ leBytes 2 s.card))) := by
  unfold encode
  rw [hty]
  simp only [leB_eq, List.cons_append, List.append_assoc]

/-- **round trip, RUNS container holding one interval** `[mn, mx)` that is not the whole universe
    (`mx - mn < 65536`, always true in the C where `max` is a `uint16_t`) -/
theorem decode_encode_runs (s : St) (mn mx : Nat) (hi : Inv s) (hty : s.ty = .runs) (hlt : mn < mx)
    (hmx : mx ≤ 65536) (hnf : mx - mn < 65536)
    (hb : ∀ w, s.bits.testBit w = (decide (mn ≤ w) && decide (w < mx))) :
    decodeSt (encode s) = some s := by
  have hbits : s.bits = (2 ^ (mx - mn) - 1) <<< mn :=
    Nat.eq_of_testBit_eq (fun w => by rw [hb, testBit_range])
  have hcard : s.card = mx - mn := by
    rw [hi.card_eq, hbits, popCount_range mn mx hmx]
  have hhead : (members s).head! = mn := by
    apply head_of_sorted _ _ (members_sorted s)
    · refine (mem_members s mn).mpr ⟨by omega, ?_⟩
      rw [hb]; simp; omega
    · intro x hx
      have := ((mem_members s x).mp hx).2
      rw [hb] at this
      simp at this; omega
  rw [encode_runs s hty, hhead, decodeSt_runs1 _ _ _ (card_lt s hi) (by omega), hcard, Nat.mod_eq_of_lt hnf,
    ← hbits, ← hcard, ← hty]

theorem decode_encode_addRange_fast (s : St) (mn mx : Nat) (hi : Inv s) (hc : s.card = 0)
    (hbig : mx - mn > arrayMax) (hmx : mx ≤ 65536) (hnf : mx - mn < 65536) :
    decodeSt (encode (addRange s mn mx)) = some (addRange s mn mx) := by
  have hlt : mn < mx := by unfold arrayMax at hbig; omega
  obtain ⟨h1, h2⟩ := addRange_spec s mn mx hmx hi
  have hz := bits_zero_of_card_zero s hi hc
  apply decode_encode_runs _ mn mx h1 (by rw [addRange_fast s mn mx hlt hbig hc]) hlt hmx hnf
  intro w
  rw [h2 w, hz, Nat.zero_testBit, Bool.false_or]

/-- the excluded case: a RUNS container whose counter is 65536 (the model's `addRange s 0 65536`, not
    expressible in the C where `max` is a `uint16_t`) encodes its run length as 0 and decodes to the empty set -/
theorem decode_encode_runs_full (s : St) (hty : s.ty = .runs) (hc : s.card = 65536) :
    decodeSt (encode s) = some ⟨.runs, 65536, 0⟩ := by
  rw [encode_runs s hty, hc, decodeSt_runs1 _ _ _ (by omega) (head_members_lt s), Nat.mod_self,
    Nat.pow_zero, Nat.sub_self, Nat.zero_shiftLeft]

/-- **round trip** for the containers `Add` produces (ARRAY and BITMAP) -/
theorem decode_encode (s : St) (hi : Inv s) (hty : s.ty ≠ .runs) : decodeSt (encode s) = some s := by
  cases h : s.ty with
  | array => exact decode_encode_array s hi h
  | bitmap => exact decode_encode_bitmap s hi h
  | runs => exact absurd h hty

/-- `decodeSt bs = some t` means the bounded decoder accepted `bs` (no fault, no error return) -/
theorem decodeSt_accepts (bs : List Nat) (t : St) (h : decodeSt bs = some t) :
    ∃ bm, (bitmapDec bs).1 = .ok bm ∧ ofBM bm = some t := by
  unfold decodeSt at h
  cases hd : (bitmapDec bs).1 with
  | fault => rw [hd] at h; cases h
  | err => rw [hd] at h; cases h
  | ok bm => rw [hd] at h; exact ⟨bm, rfl, h⟩

/-! ## 5. clone
  The model has no `clone`: `Model/Bitmap.lean` uses the source state itself where the C calls
  `varintBitmapClone` (see `or`), and `Props/C18.lean` models a successful clone as the identity
  (`cloneO … = some b`). There is nothing further to prove here. -/

end Varint.Bitmap
