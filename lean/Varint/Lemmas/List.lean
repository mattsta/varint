/- List helpers the codec lemmas share: folds of max/min over numbers, sortedness of `mergeSort` and two facts about sorted lists, `take` across a split, the length of a `flatMap` of equal-length pieces, `List.mapM` in the
   `Option` monad (succeeds exactly when the function does on every element, and then maps elementwise), and reading with `getD`
   (`range_map_getD`, `getD_zero_lt`). Core Lean only. -/
namespace Varint

theorem foldl_max_ge (xs : List Nat) (a : Nat) : a ≤ xs.foldl max a ∧ ∀ x ∈ xs, x ≤ xs.foldl max a := by
  induction xs generalizing a with
  | nil => simp
  | cons y ys ih =>
    simp only [List.foldl_cons]
    have := ih (max a y)
    refine ⟨by have := this.1; omega, ?_⟩
    intro x hx
    simp only [List.mem_cons] at hx
    rcases hx with rfl | hx
    · have := this.1; omega
    · exact this.2 x hx

theorem foldl_max_lt (xs : List Nat) (a b : Nat) (ha : a < b) (hx : ∀ x ∈ xs, x < b) : xs.foldl max a < b := by
  induction xs generalizing a with
  | nil => simpa
  | cons y ys ih =>
    simp only [List.foldl_cons]
    apply ih
    · have := hx y (by simp); omega
    · intro x hx'; exact hx x (by simp [hx'])

theorem foldl_min_le (xs : List Nat) (a : Nat) : xs.foldl min a ≤ a ∧ ∀ x ∈ xs, xs.foldl min a ≤ x := by
  induction xs generalizing a with
  | nil => simp
  | cons y ys ih =>
    simp only [List.foldl_cons]
    have := ih (min a y)
    refine ⟨by have := this.1; omega, ?_⟩
    intro x hx
    simp only [List.mem_cons] at hx
    rcases hx with rfl | hx
    · have := this.1; omega
    · exact this.2 x hx

/-- folding an operation that returns one of its arguments (`min`, `max`) returns the start value or an element -/
theorem foldl_sel_mem (f : Nat → Nat → Nat) (hf : ∀ a b, f a b = a ∨ f a b = b) (l : List Nat) (a : Nat) :
    l.foldl f a = a ∨ l.foldl f a ∈ l := by
  induction l generalizing a with
  | nil => exact Or.inl rfl
  | cons y ys ih =>
    rw [List.foldl_cons]
    rcases ih (f a y) with h | h
    · rw [h]
      rcases hf a y with e | e
      · exact Or.inl e
      · exact Or.inr (by rw [e]; exact List.mem_cons_self)
    · exact Or.inr (List.mem_cons_of_mem _ h)

theorem sort_pairwise (xs : List Nat) : List.Pairwise (· ≤ ·) (xs.mergeSort (· ≤ ·)) := by
  have := List.pairwise_mergeSort (le := fun (a b : Nat) => decide (a ≤ b))
    (by intro a b c; simp only [decide_eq_true_eq]; omega)
    (by intro a b; simp only [Bool.or_eq_true, decide_eq_true_eq]; omega) xs
  simpa using this

theorem sorted_ext (l1 l2 : List Nat) (h1 : List.Pairwise (· < ·) l1) (h2 : List.Pairwise (· < ·) l2)
    (h : ∀ x, x ∈ l1 ↔ x ∈ l2) : l1 = l2 :=
  List.Perm.eq_of_pairwise (le := (· < ·)) (fun _ _ _ _ hab hba => absurd hab (Nat.lt_asymm hba)) h1 h2
    ((List.perm_ext_iff_of_nodup (h1.imp Nat.ne_of_lt) (h2.imp Nat.ne_of_lt)).mpr h)

theorem filter_gt_sorted : ∀ (s : List Nat), List.Pairwise (· ≤ ·) s → ∀ (i : Nat) (hi : i < s.length),
    (s.filter (· > s[i])).length + i + 1 ≤ s.length
  | [], _, i, hi => by simp at hi
  | a :: t, hs, 0, _ => by
    have := List.length_filter_le (· > a) t
    simp only [List.getElem_cons_zero, List.length_cons]
    rw [List.filter_cons_of_neg (by simp)]
    omega
  | a :: t, hs, j + 1, hi => by
    rw [List.pairwise_cons] at hs
    have hj : j < t.length := by simpa using hi
    have ih := filter_gt_sorted t hs.2 j hj
    have ha : a ≤ t[j] := hs.1 _ (List.getElem_mem hj)
    simp only [List.getElem_cons_succ, List.length_cons]
    rw [List.filter_cons_of_neg (by simp; omega)]
    omega

theorem take_take_append_drop (xs : List Nat) (k n : Nat) :
    (xs.take k).take n ++ (xs.drop k).take (n - k) = xs.take n := by
  by_cases h : n ≤ k
  · rw [List.take_take, Nat.min_eq_left h, Nat.sub_eq_zero_of_le h, List.take_zero, List.append_nil]
  · obtain ⟨m, rfl⟩ : ∃ m, n = k + m := ⟨n - k, by omega⟩
    rw [List.take_take, Nat.min_eq_right (by omega), Nat.add_sub_cancel_left, List.take_add]

theorem length_flatMap_of_length {α β : Type} (f : α → List β) (k : Nat) (hf : ∀ a, (f a).length = k) (l : List α) :
    (l.flatMap f).length = l.length * k := by
  induction l with
  | nil => simp
  | cons a t ih => rw [List.flatMap_cons, List.length_append, hf, ih, List.length_cons, Nat.succ_mul, Nat.add_comm]

theorem mapM_some {α β : Type} (f : α → Option β) (g : α → β) (l : List α) (h : ∀ a ∈ l, f a = some (g a)) :
    l.mapM f = some (l.map g) := by
  induction l with
  | nil => rfl
  | cons a l ih =>
    rw [List.mapM_cons, h a (by simp), ih (fun b hb => h b (by simp [hb]))]
    rfl

theorem mapM_cons_eq_some {α β : Type} {f : α → Option β} {a : α} {l : List α} {r : List β}
    (h : (a :: l).mapM f = some r) : ∃ b bs, f a = some b ∧ l.mapM f = some bs ∧ r = b :: bs := by
  rw [List.mapM_cons] at h
  cases hfa : f a with
  | none => rw [hfa] at h; cases h
  | some b =>
    cases hl : l.mapM f with
    | none => rw [hfa, hl] at h; cases h
    | some bs =>
      rw [hfa, hl] at h
      cases h
      exact ⟨b, bs, rfl, rfl, rfl⟩

theorem mapM_length {α β : Type} (f : α → Option β) (l : List α) (r : List β) (h : l.mapM f = some r) :
    r.length = l.length := by
  induction l generalizing r with
  | nil => cases h; rfl
  | cons a l ih =>
    obtain ⟨b, bs, _, hl, rfl⟩ := mapM_cons_eq_some h
    rw [List.length_cons, List.length_cons, ih bs hl]

theorem mapM_getElem {α β : Type} (f : α → Option β) (l : List α) (r : List β) (h : l.mapM f = some r)
    (i : Nat) (hl : i < l.length) (hr : i < r.length) : f l[i] = some r[i] := by
  induction l generalizing r i with
  | nil => simp at hl
  | cons a l ih =>
    obtain ⟨b, bs, hfa, hm, rfl⟩ := mapM_cons_eq_some h
    cases i with
    | zero => exact hfa
    | succ j => exact ih bs hm j (by simpa using hl) (by simpa using hr)

/-- reading the first `n` positions of a list one by one gives back its first `n` elements -/
theorem range_map_getD {α β : Type} (f : α → β) (l : List α) (d : α) (n : Nat) (hn : n ≤ l.length) :
    (List.range n).map (fun i => f (l.getD i d)) = (l.take n).map f := by
  apply List.ext_getElem
  · simp only [List.length_map, List.length_range, List.length_take]; omega
  · intro i h1 h2
    simp only [List.length_map, List.length_range] at h1
    simp [List.getD_eq_getElem?_getD, List.getElem?_eq_getElem (show i < l.length by omega)]

/-- reading a list with default 0 obeys any positive bound its elements obey -/
theorem getD_zero_lt {B : Nat} (ws : List Nat) (h : ∀ w ∈ ws, w < B) (hB : 0 < B) (j : Nat) : ws.getD j 0 < B := by
  rw [List.getD_eq_getElem?_getD]
  cases e : ws[j]? with
  | none => exact hB
  | some w => exact h w (List.mem_of_getElem? e)

theorem getD_zero_append {l : List Nat} (h : 0 < l.length) (rest : List Nat) : (l ++ rest).getD 0 0 = l.headD 0 := by
  cases l with
  | nil => simp at h
  | cons a t => rfl

end Varint
