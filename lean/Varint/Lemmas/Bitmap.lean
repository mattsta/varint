import Varint.Model.Bitmap
/- Lemmas about the bitmap state machine: membership laws and the cardinality invariant, for single and for
   bulk operations (`addMany`, `removeMany`), and the iteration `members`. -/
namespace Varint.Bitmap

theorem testBit_setBit (b v w : Nat) : (setBit b v).testBit w = (b.testBit w || decide (v = w)) := by
  unfold setBit; rw [Nat.testBit_or, Nat.testBit_two_pow]

theorem testBit_clearBit (b v w : Nat) : (clearBit b v).testBit w = (b.testBit w && !decide (v = w)) := by
  unfold clearBit
  rw [Nat.testBit_xor, Nat.testBit_and, Nat.testBit_two_pow]
  cases b.testBit w <;> cases decide (v = w) <;> rfl

theorem setBit_of_testBit {b v : Nat} (h : b.testBit v = true) : setBit b v = b := by
  apply Nat.eq_of_testBit_eq
  intro w
  rw [testBit_setBit]
  by_cases hvw : v = w
  · rw [← hvw, h]; rfl
  · rw [decide_eq_false hvw, Bool.or_false]

theorem clearBit_of_testBit {b v : Nat} (h : b.testBit v = false) : clearBit b v = b := by
  apply Nat.eq_of_testBit_eq
  intro w
  rw [testBit_clearBit]
  by_cases hvw : v = w
  · rw [← hvw, h]; rfl
  · rw [decide_eq_false hvw]; exact Bool.and_true _

theorem testBit_foldl_setBit (vs : List Nat) (b w : Nat) :
    (vs.foldl setBit b).testBit w = (b.testBit w || decide (w ∈ vs)) := by
  induction vs generalizing b with
  | nil => simp
  | cons v vs ih =>
    rw [List.foldl_cons, ih, testBit_setBit]
    simp only [List.mem_cons, Bool.decide_or, Bool.or_assoc, @eq_comm _ v w]

theorem testBit_foldl_clearBit (vs : List Nat) (b w : Nat) :
    (vs.foldl clearBit b).testBit w = (b.testBit w && !decide (w ∈ vs)) := by
  induction vs generalizing b with
  | nil => simp
  | cons v vs ih =>
    rw [List.foldl_cons, ih, testBit_clearBit]
    simp only [List.mem_cons, Bool.decide_or, Bool.not_or, Bool.and_assoc, @eq_comm _ v w]

/-- number of members below `n` -/
def countBelow (b : Nat) : Nat → Nat
  | 0 => 0
  | n + 1 => countBelow b n + (if b.testBit n then 1 else 0)

def popCount (b : Nat) : Nat := countBelow b 65536

theorem countBelow_zero : ∀ n, countBelow 0 n = 0
  | 0 => rfl
  | n + 1 => by simp only [countBelow, countBelow_zero n, Nat.zero_testBit]; rfl

theorem countBelow_setBit (b v n : Nat) (hv : b.testBit v = false) :
    countBelow (setBit b v) n = countBelow b n + (if v < n then 1 else 0) := by
  induction n with
  | zero => rfl
  | succ n ih =>
    simp only [countBelow, ih, testBit_setBit]
    by_cases h : v = n
    · subst h
      simp [hv]
    · rw [decide_eq_false h, Bool.or_false]
      by_cases h2 : v < n
      · rw [if_pos h2, if_pos (Nat.lt_succ_of_lt h2)]; omega
      · rw [if_neg h2, if_neg (show ¬ v < n + 1 by omega)]; omega

theorem countBelow_clearBit (b v n : Nat) (hv : b.testBit v = true) :
    countBelow (clearBit b v) n + (if v < n then 1 else 0) = countBelow b n := by
  induction n with
  | zero => rfl
  | succ n ih =>
    simp only [countBelow, testBit_clearBit]
    by_cases h : v = n
    · subst h
      simp [hv] at ih ⊢
      omega
    · rw [decide_eq_false h, Bool.not_false, Bool.and_true]
      by_cases h2 : v < n
      · rw [if_pos h2] at ih; rw [if_pos (Nat.lt_succ_of_lt h2)]; omega
      · rw [if_neg h2] at ih; rw [if_neg (show ¬ v < n + 1 by omega)]; omega

/-- the invariant the C maintains: counter = number of members, all members are 16-bit values -/
structure Inv (s : St) : Prop where
  card_eq : s.card = popCount s.bits
  small : ∀ w, 65536 ≤ w → s.bits.testBit w = false

theorem inv_init : Inv init :=
  ⟨(countBelow_zero 65536).symm, fun w _ => Nat.zero_testBit w⟩

/-- the invariant does not look at the container type -/
theorem Inv.of_eq {s t : St} (hi : Inv s) (hb : t.bits = s.bits) (hc : t.card = s.card) : Inv t :=
  ⟨by rw [hc, hb]; exact hi.card_eq, by rw [hb]; exact hi.small⟩

theorem Inv.setBit {s t : St} {v : Nat} (hi : Inv s) (hv : v < 65536) (hm : s.bits.testBit v = false)
    (hb : t.bits = setBit s.bits v) (hc : t.card = s.card + 1) : Inv t := by
  refine ⟨?_, fun w hw => ?_⟩
  · rw [hc, hb, popCount, countBelow_setBit _ _ _ hm, if_pos hv, hi.card_eq, popCount]
  · rw [hb, testBit_setBit, hi.small w hw, decide_eq_false (by omega)]
    rfl

theorem Inv.clearBit {s t : St} {v : Nat} (hi : Inv s) (hv : v < 65536) (hm : s.bits.testBit v = true)
    (hb : t.bits = clearBit s.bits v) (hc : t.card = s.card - 1) : Inv t := by
  refine ⟨?_, fun w hw => ?_⟩
  · have := countBelow_clearBit s.bits v 65536 hm
    rw [if_pos hv] at this
    rw [hc, hb, hi.card_eq, popCount, popCount, ← this, Nat.add_sub_cancel]
  · rw [hb, testBit_clearBit, hi.small w hw]
    rfl

theorem unrun_same (s : St) : (unrun s).bits = s.bits ∧ (unrun s).card = s.card := by
  unfold unrun; split <;> exact ⟨rfl, rfl⟩

/-- `varintBitmapAdd` in terms of the member set and the counter alone: which container holds the data, and
    whether it is converted on the way, shows in neither -/
theorem add_eq (s : St) (v : Nat) :
    (add s v).1.bits = setBit s.bits v ∧
    (add s v).1.card = s.card + (if s.bits.testBit v then 0 else 1) ∧
    (add s v).2 = !s.bits.testBit v := by
  obtain ⟨hb, hc⟩ := unrun_same s
  unfold add
  simp only [hb]
  by_cases hm : s.bits.testBit v = true
  · rw [if_pos hm, if_pos hm, hm]
    exact ⟨hb.trans (setBit_of_testBit hm).symm, hc, rfl⟩
  · rw [if_neg hm, if_neg hm, Bool.eq_false_iff.mpr hm]
    split
    · split <;> exact ⟨rfl, congrArg (· + 1) hc, rfl⟩
    · exact ⟨rfl, congrArg (· + 1) hc, rfl⟩

/-- `varintBitmapRemove`, likewise -/
theorem remove_eq (s : St) (v : Nat) :
    (remove s v).1.bits = clearBit s.bits v ∧
    (remove s v).1.card = s.card - (if s.bits.testBit v then 1 else 0) ∧
    (remove s v).2 = s.bits.testBit v := by
  obtain ⟨hb, hc⟩ := unrun_same s
  unfold remove
  simp only [hb]
  by_cases hm : s.bits.testBit v = true
  · rw [hm, if_neg (show ¬ (!true) = true by decide), if_pos rfl]
    split <;> exact ⟨rfl, congrArg (· - 1) hc, rfl⟩
  · rw [Bool.eq_false_iff.mpr hm, if_pos (show (!false) = true from rfl), if_neg (show ¬ false = true by decide)]
    exact ⟨hb.trans (clearBit_of_testBit (Bool.eq_false_iff.mpr hm)).symm, hc, rfl⟩

theorem unrun_unrun (s : St) : unrun (unrun s) = unrun s := by
  unfold unrun
  split
  · rw [if_neg]
    split <;> exact nofun
  · rfl

theorem add_unrun (s : St) (v : Nat) : add (unrun s) v = add s v := by
  unfold add
  rw [unrun_unrun]

theorem inv_add {s : St} {v : Nat} (hv : v < 65536) (hi : Inv s) : Inv (add s v).1 := by
  obtain ⟨hb, hc, _⟩ := add_eq s v
  by_cases hm : s.bits.testBit v = true
  · rw [if_pos hm] at hc
    exact hi.of_eq (hb.trans (setBit_of_testBit hm)) hc
  · rw [if_neg hm] at hc
    exact hi.setBit hv (Bool.eq_false_iff.mpr hm) hb hc

theorem inv_remove {s : St} {v : Nat} (hv : v < 65536) (hi : Inv s) : Inv (remove s v).1 := by
  obtain ⟨hb, hc, _⟩ := remove_eq s v
  by_cases hm : s.bits.testBit v = true
  · rw [if_pos hm] at hc
    exact hi.clearBit hv hm hb hc
  · rw [if_neg hm] at hc
    exact hi.of_eq (hb.trans (clearBit_of_testBit (Bool.eq_false_iff.mpr hm))) hc

/-! ### bulk operations: folds of `add` / `remove` -/

theorem foldl_bits {g : St → Nat → St} {op : Nat → Nat → Nat} (hg : ∀ s v, (g s v).bits = op s.bits v)
    (vs : List Nat) (s : St) : (vs.foldl g s).bits = vs.foldl op s.bits := by
  induction vs generalizing s with
  | nil => rfl
  | cons v vs ih => rw [List.foldl_cons, List.foldl_cons, ih, hg]

theorem foldl_inv {g : St → Nat → St} (hg : ∀ s v, v < 65536 → Inv s → Inv (g s v))
    (vs : List Nat) (s : St) (hvs : ∀ v ∈ vs, v < 65536) (hi : Inv s) : Inv (vs.foldl g s) := by
  induction vs generalizing s with
  | nil => exact hi
  | cons v vs ih =>
    exact ih _ (fun x hx => hvs x (List.mem_cons_of_mem v hx)) (hg s v (hvs v (List.mem_cons_self ..)) hi)

theorem addMany_spec (vs : List Nat) (s : St) (hvs : ∀ v ∈ vs, v < 65536) (hi : Inv s) :
    (∀ w, (addMany s vs).bits.testBit w = (s.bits.testBit w || decide (w ∈ vs))) ∧ Inv (addMany s vs) :=
  ⟨fun w => by rw [addMany, foldl_bits (fun s v => (add_eq s v).1), testBit_foldl_setBit],
   foldl_inv (fun _ _ => inv_add) vs s hvs hi⟩

theorem removeMany_spec (vs : List Nat) (s : St) (hvs : ∀ v ∈ vs, v < 65536) (hi : Inv s) :
    (∀ w, (vs.foldl (fun st v => (remove st v).1) s).bits.testBit w = (s.bits.testBit w && !decide (w ∈ vs))) ∧
    Inv (vs.foldl (fun st v => (remove st v).1) s) :=
  ⟨fun w => by rw [foldl_bits (fun s v => (remove_eq s v).1), testBit_foldl_clearBit],
   foldl_inv (fun _ _ => inv_remove) vs s hvs hi⟩

/-! ### iteration -/

theorem wordMembers_eq (base : Nat) : ∀ (n i w : Nat),
    wordMembers base n i w = ((List.range n).filter (w.testBit ·)).map (base + i + ·)
  | 0, _, _ => rfl
  | n + 1, i, w => by
    have hs : (w.testBit ·) ∘ Nat.succ = ((w / 2).testBit ·) := funext fun j => Nat.testBit_succ w j
    have hm : (base + i + ·) ∘ Nat.succ = (base + (i + 1) + ·) := funext fun j => by
      show base + i + (j + 1) = base + (i + 1) + j
      omega
    rw [wordMembers, wordMembers_eq base n (i + 1) (w / 2), List.range_succ_eq_map, List.filter_cons,
      List.filter_map, hs]
    by_cases hw : w % 2 = 1
    · rw [if_pos hw, if_pos (show w.testBit 0 = true by rw [Nat.testBit_zero, decide_eq_true hw]),
        List.map_cons, List.map_map, hm]
      rfl
    · rw [if_neg hw, if_neg (show ¬ w.testBit 0 = true by rw [Nat.testBit_zero, decide_eq_false hw]; exact nofun),
        List.map_map, hm]

theorem membersAux_eq : ∀ (n k b : Nat),
    membersAux n k b = ((List.range (64 * n)).filter (b.testBit ·)).map (64 * k + ·)
  | 0, _, _ => rfl
  | n + 1, k, b => by
    have hlo : (List.range 64).filter ((b % 2 ^ 64).testBit ·) = (List.range 64).filter (b.testBit ·) :=
      List.filter_congr fun j hj => by
        rw [Nat.testBit_mod_two_pow, decide_eq_true (List.mem_range.mp hj), Bool.true_and]
    have hhi : (b.testBit ·) ∘ (64 + ·) = ((b / 2 ^ 64).testBit ·) := funext fun j => by
      show b.testBit (64 + j) = (b / 2 ^ 64).testBit j
      rw [Nat.testBit_div_two_pow, Nat.add_comm]
    have hm : (64 * k + ·) ∘ (64 + ·) = (64 * (k + 1) + ·) := funext fun j => by
      show 64 * k + (64 + j) = 64 * (k + 1) + j
      omega
    rw [membersAux, wordMembers_eq, membersAux_eq n (k + 1), hlo, Nat.mul_succ 64 n, Nat.add_comm (64 * n) 64,
      List.range_add, List.filter_append, List.map_append, List.filter_map, List.map_map, hhi, hm, Nat.add_zero]

/-- iteration / toArray lists the set bits below 65536 in ascending order -/
theorem members_eq (s : St) : members s = (List.range 65536).filter (s.bits.testBit ·) := by
  rw [members, membersAux_eq]
  exact (List.map_congr_left fun j _ => Nat.zero_add j).trans (List.map_id _)

theorem mem_members (s : St) (x : Nat) : x ∈ members s ↔ x < 65536 ∧ s.bits.testBit x = true := by
  rw [members_eq, List.mem_filter, List.mem_range]

theorem bits_of_members (s : St) (hs : ∀ w, 65536 ≤ w → s.bits.testBit w = false) (w : Nat) :
    decide (w ∈ members s) = s.bits.testBit w := by
  rw [Bool.eq_iff_iff, decide_eq_true_eq, mem_members]
  exact ⟨And.right, fun hb => ⟨Nat.lt_of_not_le fun hw => Bool.false_ne_true ((hs w hw).symm.trans hb), hb⟩⟩

theorem members_lt (s : St) : ∀ v ∈ members s, v < 65536 := fun v hv => ((mem_members s v).mp hv).1

/-- `Add` of everything the iteration of `c` yields is the union with `c` -/
theorem addMany_members (a c : St) (ha : Inv a) (hc : ∀ w, 65536 ≤ w → c.bits.testBit w = false) :
    (∀ w, (addMany a (members c)).bits.testBit w = (a.bits.testBit w || c.bits.testBit w)) ∧
    Inv (addMany a (members c)) := by
  obtain ⟨h1, h2⟩ := addMany_spec (members c) a (members_lt c) ha
  exact ⟨fun w => by rw [h1 w, bits_of_members c hc w], h2⟩

/-- `Create`, then `Add` of the iteration of a 16-bit set `x`, rebuilds `x` -/
theorem addMany_init_members (x : Nat) (hx : ∀ w, 65536 ≤ w → x.testBit w = false) :
    (addMany init (members ⟨.array, 0, x⟩)).bits = x ∧ Inv (addMany init (members ⟨.array, 0, x⟩)) := by
  obtain ⟨h1, h2⟩ := addMany_members init ⟨.array, 0, x⟩ inv_init hx
  exact ⟨Nat.eq_of_testBit_eq fun w => (h1 w).trans (by rw [init, Nat.zero_testBit]; rfl), h2⟩

end Varint.Bitmap
