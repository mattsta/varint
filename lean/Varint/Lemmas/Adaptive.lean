import Varint.Model.AdaptiveDec
import Varint.Lemmas.Delta
import Varint.Lemmas.FOR
import Varint.Lemmas.Tagged
import Varint.Lemmas.PFOR
import Varint.Lemmas.Dict
import Varint.Lemmas.Bounded
import Varint.Lemmas.Bitmap
import Varint.Lemmas.BitmapIter
/-
  The full adaptive decoder (`Adaptive.decodeAll`, Model/AdaptiveDec.lean). In this order: the equations of
  `encodeWith` / `decodeAll` per tag byte, agreement with the three-arm `decode`, the forced round trip of each arm
  (PFOR, DICT, BITMAP, then DELTA / FOR / TAGGED), the selector, the round trip for whatever it picks, capacity
  for arbitrary bytes (each arm writes at most `maxCount` values), encoded size against `varintAdaptiveMaxSize`.
-/
namespace Varint.Adaptive
open Varint.Bounded (R BM le32 bitmapDec)

theorem encodeWith_delta (xs : List Nat) : encodeWith DELTA xs = DELTA :: Delta.encU xs := rfl
theorem encodeWith_for (xs : List Nat) : encodeWith FOR_ xs = FOR_ :: FOR.enc xs := rfl
theorem encodeWith_pfor (xs : List Nat) : encodeWith PFOR_ xs = PFOR_ :: PFOR.enc xs 95 := rfl
theorem encodeWith_dict (xs : List Nat) : encodeWith DICT xs = DICT :: Dict.enc xs := rfl
theorem encodeWith_bitmap (xs : List Nat) :
    encodeWith BITMAP xs = BITMAP :: Bitmap.encode (Bitmap.addMany Bitmap.init (xs.filter (· < 65536))) := rfl

theorem decodeAll_delta (data : List Nat) (cap : Nat) :
    decodeAll (DELTA :: data) cap = (Delta.decU cap data).map (·.1) := rfl
theorem decodeAll_for (data : List Nat) (cap : Nat) :
    decodeAll (FOR_ :: data) cap =
      match FOR.dec data cap with | some (some vs) => some vs | some none => some [] | none => none := rfl
theorem decodeAll_pfor (data : List Nat) (cap : Nat) : decodeAll (PFOR_ :: data) cap = pforArm data cap := rfl
theorem decodeAll_dict (data : List Nat) (cap : Nat) : decodeAll (DICT :: data) cap = dictArm data cap := rfl
theorem decodeAll_bitmap (data : List Nat) (cap : Nat) : decodeAll (BITMAP :: data) cap = bitmapArm data cap := rfl

/-- TAGGED and every unknown tag byte: the `default:` arm -/
def OtherTag (t : Nat) : Prop := t ≠ DELTA ∧ t ≠ FOR_ ∧ t ≠ PFOR_ ∧ t ≠ DICT ∧ t ≠ BITMAP

theorem otherTag_of_le (t : Nat) (ht : 5 ≤ t) : OtherTag t := by
  unfold OtherTag DELTA FOR_ PFOR_ DICT BITMAP
  omega

theorem encodeWith_tagged (t : Nat) (ht : OtherTag t) (xs : List Nat) :
    encodeWith t xs = t :: xs.flatMap Tagged.enc := by
  obtain ⟨h0, h1, h2, h3, h4⟩ := ht
  unfold encodeWith
  rw [if_neg h0, if_neg h1, if_neg h2, if_neg h3, if_neg h4]

theorem decodeAll_tagged (t : Nat) (ht : OtherTag t) (data : List Nat) (cap : Nat) :
    decodeAll (t :: data) cap = decTaggedLoop (cap * 9 % 2 ^ 64) cap 0 data := by
  obtain ⟨h0, h1, h2, h3, h4⟩ := ht
  unfold decodeAll
  simp only [if_neg h0, if_neg h1, if_neg h2, if_neg h3, if_neg h4]

theorem decTaggedLoop_of_decTagged (lim : Nat) : ∀ (n off : Nat) (bs vs : List Nat),
    decTagged n bs = some vs → off + 9 * n ≤ lim → decTaggedLoop lim n off bs = some vs
  | 0, _, _, _, h, _ => h
  | n + 1, off, bs, vs, h, hl => by
    unfold decTagged at h
    split at h
    · rename_i v l hg
      obtain ⟨r, hr, rfl⟩ := Option.map_eq_some_iff.mp h
      have hl9 := (Bounded.getN_ok_spec _ _ _ _ hg).2.2.1
      unfold decTaggedLoop
      rw [if_pos (by omega), hg]
      simp only []
      rw [decTaggedLoop_of_decTagged lim n (off + l) (bs.drop l) r hr (by omega)]
      rfl
    · cases h

/-- `hcap`: the TAGGED arm stops at offset `maxCount * 9`, a `size_t` product that must not wrap -/
theorem decodeAll_of_decode (bs : List Nat) (cap : Nat) (vs : List Nat) (hcap : cap * 9 < 2 ^ 64)
    (h : decode bs cap = some vs) : decodeAll bs cap = some vs := by
  cases bs with
  | nil => cases h
  | cons t data =>
    unfold decode at h
    simp only [] at h
    by_cases h0 : t = DELTA
    · rw [if_pos h0] at h
      rw [h0, decodeAll_delta]
      exact h
    · rw [if_neg h0] at h
      by_cases h1 : t = FOR_
      · rw [if_pos h1] at h
        rw [h1, decodeAll_for]
        exact h
      · rw [if_neg h1] at h
        by_cases h5 : t = TAGGED
        · rw [if_pos h5] at h
          rw [h5, decodeAll_tagged TAGGED (otherTag_of_le 5 (Nat.le_refl 5))]
          exact decTaggedLoop_of_decTagged _ cap 0 data vs h (by rw [Nat.mod_eq_of_lt hcap]; omega)
        · rw [if_neg h5] at h
          cases h

theorem drop_hdr (data r1 : List Nat) (l1 w l2 : Nat) (h2 : data.drop l1 = w :: r1) :
    data.drop (l1 + 1 + l2) = r1.drop l2 := by
  rw [Nat.add_assoc, ← List.drop_drop, h2, Nat.add_comm 1 l2, List.drop_succ_cons]

/-- with the header skipped as it was read, the body of the arm is the stand-alone PFOR decoder -/
theorem pforBody_eq_dec (data : List Nat) (mn l1 w cnt0 l2 : Nat) (r1 : List Nat)
    (h1 : Tagged.get data = .ok mn l1) (h2 : data.drop l1 = w :: r1) (h3 : Tagged.get r1 = .ok cnt0 l2) :
    pforBody data mn w (cnt0 % 2 ^ 32) (l1 + 1 + l2) = PFOR.dec data := by
  unfold PFOR.dec pforBody
  rw [h1]
  simp only []
  rw [h2]
  simp only []
  rw [h3]
  simp only []
  rw [drop_hdr data r1 l1 w l2 h2]
  rfl

theorem pfor_forced (xs : List Nat) (g : PFOR.Good xs) (rest : List Nat) :
    decodeAll (encodeWith PFOR_ xs ++ rest) xs.length = some xs := by
  have f := PFOR.compute_facts xs g 95
  have hl := g.2.1
  have hw := f.width_pos
  have hec : (PFOR.compute xs 95).exceptionCount < 2 ^ 64 := by have := f.exc_le; omega
  have hmod : xs.length % 2 ^ 32 = xs.length := Nat.mod_eq_of_lt hl
  have hget1 := PFOR.hdr_min xs g 95 rest
  have hdrop := PFOR.hdr_width xs 95 rest
  -- what follows the width byte: the count, then the slots, then the exception count
  generalize PFOR.excs (PFOR.compute xs 95) 0 xs ++ rest = tail at hdrop
  have hget2 : Tagged.get (Tagged.enc xs.length ++ (PFOR.slots (PFOR.compute xs 95) xs ++
        (Tagged.enc (PFOR.compute xs 95).exceptionCount ++ tail))) = .ok xs.length (Tagged.len xs.length) := by
    rw [Tagged.get_enc _ (by omega), Tagged.enc_length]
  have hbody := pforBody_eq_dec _ _ _ _ _ _ _ hget1 hdrop hget2
  rw [hmod, PFOR.dec_enc xs g 95 rest] at hbody
  rw [encodeWith_pfor, List.cons_append, decodeAll_pfor]
  unfold pforArm
  rw [hget1]
  simp only []
  rw [hdrop]
  simp only []
  rw [hget2]
  simp only []
  -- the look-ahead lands on the exception count
  rw [hmod, ← List.append_assoc, List.drop_left' (by rw [List.length_append, Tagged.enc_length, PFOR.slots_length]),
    Tagged.get_enc _ hec]
  simp only []
  rw [if_neg (by omega), if_neg (by omega)]
  exact hbody

theorem getB_tgetB (bs : List Nat) (v l rem : Nat) (h : Dict.getB bs = some (v, l)) (hrem : 9 ≤ rem) :
    Bounded.tgetB bs rem = .ok v l ∧ 1 ≤ l ∧ l ≤ 9 := by
  unfold Dict.getB at h
  split at h
  · rename_i v' l' hg
    cases h
    have hb := Bounded.getN_ok_spec _ _ _ _ hg
    exact ⟨Dict.getN_resize hg (by unfold Bounded.int32Max; omega), hb.1, hb.2.2.1⟩
  · cases h

theorem readEntries_transfer : ∀ (k : Nat) (bs d r : List Nat) (rem : Nat),
    Dict.readEntries k bs = some (d, r) → 9 * k ≤ rem →
    ∃ rr, Bounded.readEntries k bs rem = .ok (d, r, rr) ∧ rem ≤ rr + 9 * k
  | 0, bs, d, r, rem, h, _ => by
    cases h
    exact ⟨rem, rfl, by omega⟩
  | k + 1, bs, d, r, rem, h, hrem => by
    unfold Dict.readEntries at h
    split at h
    · cases h
    · rename_i v l hg
      obtain ⟨⟨d', r'⟩, hre, hq⟩ := Option.map_eq_some_iff.mp h
      cases hq
      obtain ⟨ht, hl1, hl9⟩ := getB_tgetB bs v l rem hg (by omega)
      obtain ⟨rr, hrr, hle⟩ := readEntries_transfer k (bs.drop l) d' r (rem - l) hre (by omega)
      refine ⟨rr, ?_, by omega⟩
      unfold Bounded.readEntries
      rw [ht]
      simp only []
      rw [if_neg (by omega), hrr]

theorem decIdx_of_readIdx (d : List Nat) (dsz w : Nat) : ∀ (k : Nat) (bs idx vs : List Nat),
    Dict.readIdx k w bs = some idx →
    idx.mapM (fun i => if i < dsz then d[i]? else none) = some vs →
    Bounded.decIdx d.toArray dsz w k bs = .ok vs
  | 0, bs, idx, vs, h, hm => by
    cases h
    cases hm
    rfl
  | k + 1, bs, idx, vs, h, hm => by
    unfold Dict.readIdx at h
    split at h
    · cases h
    · rename_i p ht
      obtain ⟨idx', hr, rfl⟩ := Option.map_eq_some_iff.mp h
      obtain ⟨x, vs', hd, hm', rfl⟩ := mapM_cons_eq_some hm
      by_cases hlt : ofLe p < dsz
      · rw [if_pos hlt] at hd
        obtain ⟨hi, he⟩ := List.getElem?_eq_some_iff.mp hd
        unfold Bounded.decIdx
        rw [ht]
        simp only []
        rw [if_neg (by omega), decIdx_of_readIdx d dsz w k (bs.drop w) idx' vs' hr hm']
        have hx : d.toArray.getD (ofLe p) 0 = x := by simp [Array.getD, hi, he]
        rw [hx]
      · rw [if_neg hlt] at hd
        cases hd

theorem indexWidth_le_8 (dsz : Nat) (h : dsz ≤ Dict.maxDict) : Dict.indexWidth dsz ≤ 8 := by
  unfold Dict.indexWidth
  have hmd : Dict.maxDict = 1048576 := rfl
  split
  · omega
  · exact extLen_le_8 (by omega)

/-- whatever `Dict.dec` (declared length = the list) decodes, `varintDictDecodeInto` decodes from the same
    memory under any declared length that covers the largest dictionary plus eight bytes per value -/
theorem dictDecAux_of_dec (bs : List Nat) (cap rem : Nat) (vs : List Nat)
    (h : Dict.dec bs (some cap) = some vs) (hrem : 18 + 9 * Dict.maxDict + 8 * vs.length ≤ rem) :
    (Bounded.dictDecAux bs rem (some cap)).1 = .ok vs := by
  have hmd : Dict.maxDict = 1048576 := rfl
  unfold Dict.dec at h
  by_cases c0 : bs = [] ∨ some cap = some 0
  · rw [if_pos c0] at h; cases h
  rw [if_neg c0] at h
  cases hg1 : Dict.getB bs with
  | none => rw [hg1] at h; cases h
  | some p1 =>
    obtain ⟨dsz, l1⟩ := p1
    rw [hg1] at h
    simp only [] at h
    by_cases cd : dsz > Dict.maxDict
    · rw [if_pos cd] at h; cases h
    rw [if_neg cd] at h
    cases hre : Dict.readEntries dsz (bs.drop l1) with
    | none => rw [hre] at h; cases h
    | some q =>
      obtain ⟨d, r1⟩ := q
      rw [hre] at h
      simp only [] at h
      cases hg2 : Dict.getB r1 with
      | none => rw [hg2] at h; cases h
      | some p2 =>
        obtain ⟨cnt, l2⟩ := p2
        rw [hg2] at h
        simp only [] at h
        by_cases cc : decide (cnt > cap) = true
        · rw [if_pos cc] at h; cases h
        rw [if_neg cc] at h
        by_cases cl : cnt > (r1.drop l2).length / Dict.indexWidth dsz
        · rw [if_pos cl] at h; cases h
        rw [if_neg cl] at h
        cases hri : Dict.readIdx cnt (Dict.indexWidth dsz) (r1.drop l2) with
        | none => rw [hri] at h; cases h
        | some idx =>
          rw [hri] at h
          simp only [] at h
          have hlen : vs.length = cnt := by
            rw [mapM_length _ _ _ h, Dict.readIdx_length _ _ _ _ hri]
          have hcap0 : ¬ (rem = 0 ∨ some cap = some 0) := fun hc => hc.elim (by omega) (fun hc => c0 (Or.inr hc))
          obtain ⟨ht1, hl1a, hl1b⟩ := getB_tgetB bs dsz l1 rem hg1 (by omega)
          obtain ⟨rem1, hrr, hle⟩ := readEntries_transfer dsz (bs.drop l1) d r1 (rem - l1) hre (by omega)
          obtain ⟨ht2, hl2a, hl2b⟩ := getB_tgetB r1 cnt l2 rem1 hg2 (by omega)
          have hw1 := Dict.indexWidth_pos dsz
          have hov : Bounded.overCap (some cap) cnt = false := by simpa [Bounded.overCap] using cc
          -- eight bytes per value are left, and an index is at most eight bytes wide
          have hfit : ¬ cnt > (rem1 - l2) / Dict.indexWidth dsz := by
            have h1 : cnt * Dict.indexWidth dsz ≤ cnt * 8 := Nat.mul_le_mul_left _ (indexWidth_le_8 dsz (by omega))
            exact Nat.not_lt.mpr ((Nat.le_div_iff_mul_le (by omega)).mpr (by omega))
          simp only [Bounded.dictDecAux, if_neg hcap0, ht1, if_neg (show ¬ l1 > rem by omega), if_neg cd, hrr, ht2,
            if_neg (show ¬ l2 > rem1 by omega), hov, if_neg hfit, Bool.false_eq_true, if_false]
          exact decIdx_of_readIdx d dsz _ cnt _ idx vs hri h

theorem dictLenBound_ge (cap : Nat) (h : cap < 2 ^ 32) : 18 + 9 * Dict.maxDict + 8 * cap ≤ dictLenBound cap := by
  have hmd : Dict.maxDict = 1048576 := rfl
  unfold dictLenBound
  rw [if_pos (by omega)]
  omega

theorem dict_forced (xs : List Nat) (hx : ∀ x ∈ xs, x < 2 ^ 64) (hn : xs.length < 2 ^ 32)
    (hacc : Dict.enc xs ≠ []) (rest : List Nat) :
    decodeAll (encodeWith DICT xs ++ rest) xs.length = some xs := by
  have hd := Dict.dec_enc_cap xs hx (by omega) hacc rest xs.length (Nat.le_refl _)
  have ht := dictDecAux_of_dec _ _ (dictLenBound xs.length) _ hd (dictLenBound_ge _ hn)
  rw [encodeWith_dict, List.cons_append, decodeAll_dict]
  unfold dictArm
  rw [ht]

open Varint.Bitmap (St Inv members)

theorem bitmapDecN_length (bs : List Nat) : bitmapDecN bs bs.length = (bitmapDec bs).1 := by
  unfold bitmapDecN bitmapDec
  by_cases h5 : bs.length < 5
  · rw [if_pos h5, if_pos h5]
  · rw [if_neg h5, if_neg h5]
    cases bs with
    | nil => rfl
    | cons ty r0 =>
      simp only []
      have e5 : (ty :: r0).length - 5 = (r0.drop 4).length := by
        simp only [List.length_cons, List.length_drop]; omega
      have e9 : (ty :: r0).length - 9 = (r0.drop 8).length := by
        simp only [List.length_cons, List.length_drop]; omega
      rw [e5, e9]
      cases hc : le32 r0 with
      | fault => rfl
      | err => rfl
      | ok card =>
        simp only []
        by_cases t0 : ty = 0
        · rw [if_pos t0, if_pos t0]
          by_cases c : card > (r0.drop 4).length / 2
          · rw [if_pos c, if_pos c]
          · rw [if_neg c, if_neg c]
            cases takeExact (2 * card) (r0.drop 4) <;> rfl
        · rw [if_neg t0, if_neg t0]
          by_cases t1 : ty = 1
          · rw [if_pos t1, if_pos t1]
            by_cases c : (r0.drop 4).length < Bounded.bitmapBytes
            · rw [if_pos c, if_pos c]
            · rw [if_neg c, if_neg c]
              cases takeExact Bounded.bitmapBytes (r0.drop 4) <;> rfl
          · rw [if_neg t1, if_neg t1]
            by_cases t2 : ty = 2
            · rw [if_pos t2, if_pos t2]
              by_cases c : (r0.drop 4).length < 4
              · rw [if_pos c, if_pos c]
              · rw [if_neg c, if_neg c]
                cases le32 (r0.drop 4) with
                | fault => rfl
                | err => rfl
                | ok nr =>
                  simp only []
                  by_cases c' : nr > (r0.drop 8).length / 4
                  · rw [if_pos c', if_pos c']
                  · rw [if_neg c', if_neg c']
                    cases takeExact (4 * nr) (r0.drop 8) <;> rfl
            · rw [if_neg t2, if_neg t2]

theorem bitmapDecN_array (card len : Nat) (p rest : List Nat) (hc : card < 256 ^ 4) (hp : p.length = 2 * card)
    (hl : 5 + 2 * card ≤ len) :
    bitmapDecN (0 :: (leBytes 4 card ++ (p ++ rest))) len = .ok ⟨0, card, 0, p⟩ := by
  unfold bitmapDecN
  rw [if_neg (by omega)]
  simp only [Bitmap.le32_leBytes card _ hc, List.drop_left' (leBytes_length 4 card), if_true]
  rw [if_neg (by omega), takeExact_append p rest hp]

theorem bitmapDecN_bitmap (card len : Nat) (p rest : List Nat) (hc : card < 256 ^ 4)
    (hp : p.length = Bounded.bitmapBytes) (hl : 5 + Bounded.bitmapBytes ≤ len) :
    bitmapDecN (1 :: (leBytes 4 card ++ (p ++ rest))) len = .ok ⟨1, card, 0, p⟩ := by
  unfold bitmapDecN
  rw [if_neg (by omega)]
  simp only [Bitmap.le32_leBytes card _ hc, List.drop_left' (leBytes_length 4 card),
    show ¬ (1 : Nat) = 0 by omega, if_false, if_true]
  rw [if_neg (by omega), takeExact_append p rest hp]

theorem u16le_eq : ∀ l : List Nat, u16le l = Bitmap.u16s l
  | [] => rfl
  | [_] => rfl
  | a :: b :: rest => by simp only [u16le, Bitmap.u16s, u16le_eq rest]

theorem strictAsc_pairwise : ∀ xs : List Nat, isStrictAsc xs = true → List.Pairwise (· < ·) xs
  | [], _ => List.Pairwise.nil
  | [_], _ => by simp
  | a :: b :: rest, h => by
    simp only [isStrictAsc, Bool.and_eq_true, decide_eq_true_eq] at h
    have ih := strictAsc_pairwise (b :: rest) h.2
    rw [List.pairwise_cons]
    refine ⟨?_, ih⟩
    intro y hy
    rcases List.mem_cons.mp hy with rfl | hy
    · exact h.1
    · have := (List.pairwise_cons.mp ih).1 y hy
      omega

theorem bitmapArm_encode (s : St) (hi : Inv s) (hty : s.ty ≠ .runs) (rest : List Nat) (cap : Nat) :
    bitmapArm (Bitmap.encode s ++ rest) cap = some ((members s).take cap) := by
  have hlen := Bitmap.members_length s hi
  have hc := Bitmap.card_le s hi
  have hb : Bounded.bitmapBytes = 8192 := rfl
  unfold bitmapArm Bitmap.encode
  cases hT : s.ty with
  | runs => exact absurd hT hty
  | array =>
    simp only [Bitmap.leB_eq, funext (Bitmap.leB_eq 2), List.cons_append, List.append_assoc]
    rw [bitmapDecN_array s.card _ _ rest (by omega) (by rw [length_flatMap_leBytes, hlen, Nat.mul_comm]) (by omega)]
    simp only [bmToArray, if_true]
    rw [u16le_eq, Bitmap.u16s_flatMap _ (Bitmap.members_lt s), List.take_of_length_le (by omega), if_neg (by omega)]
  | bitmap =>
    simp only [Bitmap.leB_eq, List.cons_append, List.append_assoc]
    rw [bitmapDecN_bitmap s.card _ _ rest (by omega) (leBytes_length 8192 s.bits) (by omega)]
    simp only [bmToArray, show ¬ (1 : Nat) = 0 by omega, if_false, if_true]
    rw [ofLe_leBytes, Nat.mod_eq_of_lt (Bitmap.bits_lt s hi),
      show members ⟨.bitmap, s.card, s.bits⟩ = members s from rfl, if_neg (by omega)]

/-- containers reachable by `Add` from an empty set: ARRAY up to 4096 members, BITMAP above -/
def Shape (s : St) : Prop := (s.ty = .array ∧ s.card ≤ 4096) ∨ (s.ty = .bitmap ∧ 4096 < s.card)

theorem add_shape (s : St) (v : Nat) (h : Shape s) :
    Shape (Bitmap.add s v).1 ∧ (Bitmap.add s v).1.card ≤ s.card + 1 := by
  obtain ⟨ty, card, bits⟩ := s
  unfold Shape at h ⊢
  cases ty with
  | runs => simp at h
  | array =>
    simp only [Bitmap.add, Bitmap.unrun, Bitmap.arrayMax]
    simp only [show ¬ (Bitmap.Ty.array = Bitmap.Ty.runs) by decide, if_false]
    simp at h
    split
    · simp; omega
    · split
      · simp; omega
      · simp; omega
  | bitmap =>
    simp only [Bitmap.add, Bitmap.unrun, Bitmap.arrayMax]
    simp only [show ¬ (Bitmap.Ty.bitmap = Bitmap.Ty.runs) by decide, if_false]
    simp at h
    split
    · simp; omega
    · simp; omega

theorem addMany_shape (vs : List Nat) : ∀ (s : St), Shape s →
    Shape (Bitmap.addMany s vs) ∧ (Bitmap.addMany s vs).card ≤ s.card + vs.length := by
  induction vs with
  | nil => intro s h; exact ⟨h, by simp [Bitmap.addMany]⟩
  | cons v vs ih =>
    intro s h
    obtain ⟨h1, h2⟩ := add_shape s v h
    obtain ⟨h3, h4⟩ := ih _ h1
    simp only [Bitmap.addMany, List.foldl_cons, List.length_cons] at h3 h4 ⊢
    exact ⟨h3, by omega⟩

theorem Shape.ty_ne_runs {s : St} (h : Shape s) : s.ty ≠ .runs := by
  rcases h with ⟨h, _⟩ | ⟨h, _⟩
  all_goals rw [h]; decide

theorem shape_init : Shape Bitmap.init := Or.inl ⟨rfl, Nat.zero_le _⟩

theorem members_addMany (xs : List Nat) (hasc : isStrictAsc xs = true) (hlt : ∀ x ∈ xs, x < 65536) :
    members (Bitmap.addMany Bitmap.init xs) = xs := by
  obtain ⟨hb, _⟩ := Bitmap.addMany_spec xs Bitmap.init hlt Bitmap.inv_init
  apply sorted_ext _ _ (Bitmap.members_sorted _) (strictAsc_pairwise xs hasc)
  intro x
  rw [Bitmap.mem_members, hb x]
  have h0 : Bitmap.init.bits.testBit x = false := by simp [Bitmap.init]
  rw [h0, Bool.false_or, decide_eq_true_eq]
  exact ⟨fun h => h.2, fun h => ⟨hlt x h, h⟩⟩

/-- forced BITMAP on its documented domain (strictly increasing values below 65536), any capacity, whatever
    follows the encoding: the first `cap` values -/
theorem bitmap_forced_cap (xs : List Nat) (hasc : isStrictAsc xs = true) (hlt : ∀ x ∈ xs, x < 65536)
    (rest : List Nat) (cap : Nat) :
    decodeAll (encodeWith BITMAP xs ++ rest) cap = some (xs.take cap) := by
  have hfil : xs.filter (· < 65536) = xs := List.filter_eq_self.mpr (fun x hx => by simpa using hlt x hx)
  obtain ⟨_, hi⟩ := Bitmap.addMany_spec xs Bitmap.init hlt Bitmap.inv_init
  have hty := (addMany_shape xs Bitmap.init shape_init).1.ty_ne_runs
  rw [encodeWith_bitmap, List.cons_append, decodeAll_bitmap, hfil, bitmapArm_encode _ hi hty rest cap,
    members_addMany xs hasc hlt]

theorem delta_forced (xs : List Nat) (hx : ∀ x ∈ xs, x < 2 ^ 64) (rest : List Nat) :
    decodeAll (encodeWith DELTA xs ++ rest) xs.length = some xs := by
  rw [encodeWith_delta, List.cons_append, decodeAll_delta, Delta.decU_encU xs hx rest]
  rfl

theorem for_forced (xs : List Nat) (g : FOR.Good xs) (rest : List Nat) :
    decodeAll (encodeWith FOR_ xs ++ rest) xs.length = some xs := by
  rw [encodeWith_for, List.cons_append, decodeAll_for, FOR.dec_enc xs g xs.length (Nat.le_refl _) rest]

theorem decTagged_enc (xs : List Nat) (hx : ∀ x ∈ xs, x < 2 ^ 64) (rest : List Nat) :
    decTagged xs.length (xs.flatMap Tagged.enc ++ rest) = some xs := by
  induction xs with
  | nil => rfl
  | cons x xs ih =>
    rw [List.flatMap_cons, List.append_assoc, List.length_cons, decTagged, Tagged.get_enc x (hx x (by simp))]
    simp only []
    rw [List.drop_left, ih (fun y hy => hx y (by simp [hy]))]
    rfl

theorem tagged_forced (t : Nat) (ht : 5 ≤ t) (xs : List Nat) (hx : ∀ x ∈ xs, x < 2 ^ 64)
    (hn : xs.length * 9 < 2 ^ 64) (rest : List Nat) :
    decodeAll (encodeWith t xs ++ rest) xs.length = some xs := by
  rw [encodeWith_tagged t (otherTag_of_le t ht), List.cons_append, decodeAll_tagged t (otherTag_of_le t ht)]
  exact decTaggedLoop_of_decTagged _ _ 0 _ xs (decTagged_enc xs hx rest) (by rw [Nat.mod_eq_of_lt hn]; omega)

theorem selectWith_spec (φ : FloatPreds) (s : Stats) :
    selectWith φ s = TAGGED ∨ selectWith φ s = DICT ∨
    (selectWith φ s = BITMAP ∧ s.isSorted = true ∧ s.uniqueCount = s.count ∧ s.fitsInBitmapRange = true ∧
      s.count < 10000) ∨
    selectWith φ s = DELTA ∨ selectWith φ s = PFOR_ ∨ selectWith φ s = FOR_ := by
  generalize hv : selectWith φ s = v
  unfold selectWith at hv
  by_cases c1 : s.count ≤ 1
  · rw [if_pos c1] at hv
    exact Or.inl hv.symm
  rw [if_neg c1] at hv
  by_cases c2 : φ.uniqueLow = true
  · rw [if_pos c2] at hv
    exact Or.inr (Or.inl hv.symm)
  rw [if_neg c2] at hv
  by_cases c3 : s.fitsInBitmapRange ∧ s.isSorted ∧ s.uniqueCount = s.count ∧ s.range > 0 ∧ s.count < 10000 ∧ φ.dense
  · rw [if_pos c3] at hv
    exact Or.inr (Or.inr (Or.inl ⟨hv.symm, c3.2.1, c3.2.2.1, c3.1, c3.2.2.2.2.1⟩))
  rw [if_neg c3] at hv
  by_cases c4 : (s.isSorted ∨ s.isReverseSorted) ∧
      ((s.minValue > 0 ∧ s.avgDelta < s.minValue / 10) ∨ s.avgDelta < 1000)
  · rw [if_pos c4] at hv
    exact Or.inr (Or.inr (Or.inr (Or.inl hv.symm)))
  rw [if_neg c4] at hv
  by_cases c5 : φ.fewOutliers ∧ s.range > 0
  · rw [if_pos c5] at hv
    exact Or.inr (Or.inr (Or.inr (Or.inr (Or.inl hv.symm))))
  rw [if_neg c5] at hv
  by_cases c6 : s.range > 0 ∧ s.range < s.count * 100 % 2 ^ 64
  · rw [if_pos c6] at hv
    exact Or.inr (Or.inr (Or.inr (Or.inr (Or.inr hv.symm))))
  · rw [if_neg c6] at hv
    exact Or.inl hv.symm

/-- BITMAP is selected only for ascending input whose unique count equals its length, below 65536,
    with fewer than 10000 elements (so the unique count is exact, not sampled) — whatever the
    floating-point comparisons evaluate to -/
theorem sel_bitmap_domain (φ : FloatPreds) (s : Stats) (h : selectWith φ s = BITMAP) :
    s.isSorted = true ∧ s.uniqueCount = s.count ∧ s.fitsInBitmapRange = true ∧ s.count < 10000 := by
  rcases selectWith_spec φ s with h' | h' | ⟨_, hb⟩ | h' | h' | h'
  case inr.inr.inl => exact hb
  all_goals exact absurd (h'.symm.trans h) (by decide)

theorem changes_succ_le_length : ∀ (xs : List Nat), xs ≠ [] → changes xs + 1 ≤ xs.length
  | [], h => absurd rfl h
  | [_], _ => by simp [changes]
  | a :: b :: rest, _ => by
    have := changes_succ_le_length (b :: rest) (by simp)
    simp only [changes, List.length_cons] at *
    split <;> omega

theorem asc_changes_strict : ∀ (xs : List Nat), isAsc xs = true → 1 + changes xs = xs.length →
    isStrictAsc xs = true
  | [], _, _ => rfl
  | [_], _, _ => rfl
  | a :: b :: rest, hasc, hch => by
    simp only [isAsc, Bool.and_eq_true, decide_eq_true_eq] at hasc
    have hle := changes_succ_le_length (b :: rest) (by simp)
    simp only [changes, List.length_cons] at hch hle
    by_cases hab : a = b
    · rw [if_neg (by simpa using hab)] at hch; omega
    · rw [if_pos hab] at hch
      simp only [isStrictAsc, Bool.and_eq_true, decide_eq_true_eq]
      refine ⟨by omega, asc_changes_strict (b :: rest) hasc.2 ?_⟩
      simp only [List.length_cons]; omega

theorem sel_bitmap_input (φ : FloatPreds) (xs : List Nat) (h : selectWith φ (analyze xs) = BITMAP) :
    isStrictAsc xs = true ∧ (∀ x ∈ xs, x < 65536) ∧ xs.length < 10000 := by
  obtain ⟨hs, hu, hf, hc⟩ := sel_bitmap_domain φ _ h
  simp only [analyze] at hs hu hf hc
  have hne : xs ≠ [] := by
    intro he; subst he
    simp [selectWith, analyze, TAGGED, BITMAP] at h
  refine ⟨?_, ?_, hc⟩
  · apply asc_changes_strict xs hs
    unfold uniqueOf at hu
    rw [if_neg hne, hs] at hu
    simpa using hu
  · intro x hx
    have := FOR.le_maxL xs x hx
    have hm : FOR.maxL xs < 65536 := by simpa using hf
    omega

/-- for EVERY outcome of the selector's three floating-point comparisons: the adaptive encoding of a non-empty
    array of 64-bit values with a 32-bit count decodes, with the original count as capacity, to the original
    array — same order, same duplicates, same length — whatever follows the encoded bytes. The only proviso:
    when DICT is selected the dictionary encoder must have accepted the array (at most 2^20 distinct values;
    otherwise it writes nothing). -/
theorem adaptive_roundtrip_sel (φ : FloatPreds) (xs : List Nat) (hne : xs ≠ []) (hx : ∀ x ∈ xs, x < 2 ^ 64)
    (hn : xs.length < 2 ^ 32) (hacc : selectWith φ (analyze xs) = DICT → Dict.enc xs ≠ [])
    (rest : List Nat) :
    decodeAll (encodeWith (selectWith φ (analyze xs)) xs ++ rest) xs.length = some xs := by
  rcases selectWith_spec φ (analyze xs) with h | h | ⟨h, _⟩ | h | h | h
  · rw [h]; exact tagged_forced TAGGED (Nat.le_refl 5) xs hx (by omega) rest
  · rw [h]; exact dict_forced xs hx hn (hacc h) rest
  · obtain ⟨hasc, hlt, _⟩ := sel_bitmap_input φ xs h
    rw [h, bitmap_forced_cap xs hasc hlt rest, List.take_length]
  · rw [h]; exact delta_forced xs hx rest
  · rw [h]; exact pfor_forced xs ⟨hne, hn, hx⟩ rest
  · rw [h]; exact for_forced xs ⟨hne, hx, by omega⟩ rest

theorem adaptive_roundtrip (xs : List Nat) (hne : xs ≠ []) (hx : ∀ x ∈ xs, x < 2 ^ 64)
    (hn : xs.length < 2 ^ 32) (hacc : select xs = DICT → Dict.enc xs ≠ []) (rest : List Nat) :
    decodeAll (encode xs ++ rest) xs.length = some xs :=
  adaptive_roundtrip_sel (floatPreds (analyze xs)) xs hne hx hn hacc rest

/-- up to 2^20 elements the dictionary encoder cannot refuse, so the round trip is unconditional -/
theorem adaptive_roundtrip_small (φ : FloatPreds) (xs : List Nat) (hne : xs ≠ []) (hx : ∀ x ∈ xs, x < 2 ^ 64)
    (hn : xs.length ≤ 1048576) (rest : List Nat) :
    decodeAll (encodeWith (selectWith φ (analyze xs)) xs ++ rest) xs.length = some xs :=
  adaptive_roundtrip_sel φ xs hne hx (by omega) (fun _ => Dict.enc_ne_nil_of_length_le xs hne hn) rest

theorem decDeltas_length : ∀ (n cur : Nat) (bs vs r : List Nat),
    Delta.decDeltas n cur bs = some (vs, r) → vs.length = n
  | 0, _, _, _, _, h => by cases h; rfl
  | n + 1, cur, bs, vs, r, h => by
    unfold Delta.decDeltas at h
    split at h
    · cases h
    · simp only [] at h
      split at h
      · cases h
      · rename_i hd
        cases h
        rw [List.length_cons, decDeltas_length _ _ _ _ _ hd]

theorem decU_length (n : Nat) (bs vs : List Nat) (k : Nat) (h : Delta.decU n bs = some (vs, k)) :
    vs.length = n := by
  unfold Delta.decU at h
  split at h
  · cases h; rfl
  · split at h
    · cases h
    · split at h
      · cases h
      · rename_i hd
        cases h
        rw [List.length_cons, decDeltas_length _ _ _ _ _ hd]

theorem readSlots_length : ∀ (n mn w : Nat) (bs vs : List Nat),
    PFOR.readSlots n mn w bs = some vs → vs.length = n
  | 0, _, _, _, _, h => by cases h; rfl
  | n + 1, mn, w, bs, vs, h => by
    unfold PFOR.readSlots at h
    split at h
    · cases h
    · obtain ⟨vs', hr, rfl⟩ := Option.map_eq_some_iff.mp h
      rw [List.length_cons, readSlots_length _ _ _ _ _ hr]

theorem applyExcs_length : ∀ (k : Nat) (vals bs vs : List Nat),
    PFOR.applyExcs k vals bs = some vs → vs.length = vals.length
  | 0, _, _, _, h => by cases h; rfl
  | k + 1, vals, bs, vs, h => by
    unfold PFOR.applyExcs at h
    split at h
    · split at h
      · rw [applyExcs_length k _ _ vs h]
        split
        · exact List.length_set
        · rfl
      · cases h
    · cases h

theorem pforBody_length (data : List Nat) (mn w cnt off : Nat) (vs : List Nat)
    (h : pforBody data mn w cnt off = some vs) : vs.length = cnt := by
  unfold pforBody at h
  split at h
  · cases h
  · simp only [] at h
    split at h
    · cases h
    · rename_i hr
      split at h
      · rw [applyExcs_length _ _ _ _ h, readSlots_length _ _ _ _ _ hr]
      · cases h

theorem pforArm_length (data : List Nat) (cap : Nat) (vs : List Nat) (h : pforArm data cap = some vs) :
    vs.length ≤ cap := by
  unfold pforArm at h
  split at h
  · split at h
    · cases h
    · split at h
      · simp only [] at h
        split at h
        · split at h
          · cases h; exact Nat.zero_le _
          · rw [pforBody_length _ _ _ _ _ _ h]
            omega
        · cases h
      · cases h
  · cases h

theorem dictDecAux_length (bs : List Nat) (rem cap : Nat) (vs : List Nat)
    (h : (Bounded.dictDecAux bs rem (some cap)).1 = .ok vs) : vs.length ≤ cap := by
  unfold Bounded.dictDecAux at h
  by_cases c0 : rem = 0 ∨ some cap = some 0
  · rw [if_pos c0] at h; cases h
  rw [if_neg c0] at h
  cases h1 : Bounded.tgetB bs rem with
  | fault => rw [h1] at h; cases h
  | short => rw [h1] at h; cases h
  | ok dsz w =>
    rw [h1] at h
    simp only [] at h
    by_cases c1 : w > rem
    · rw [if_pos c1] at h; cases h
    by_cases c2 : dsz > Dict.maxDict
    · rw [if_neg c1, if_pos c2] at h; cases h
    rw [if_neg c1, if_neg c2] at h
    cases h2 : Bounded.readEntries dsz (bs.drop w) (rem - w) with
    | fault => rw [h2] at h; cases h
    | err => rw [h2] at h; cases h
    | ok p =>
      obtain ⟨d, r1, rem1⟩ := p
      rw [h2] at h
      simp only [] at h
      cases h3 : Bounded.tgetB r1 rem1 with
      | fault => rw [h3] at h; cases h
      | short => rw [h3] at h; cases h
      | ok cnt w2 =>
        rw [h3] at h
        simp only [] at h
        by_cases c3 : w2 > rem1
        · rw [if_pos c3] at h; cases h
        by_cases c4 : Bounded.overCap (some cap) cnt = true
        · rw [if_neg c3, if_pos c4] at h; cases h
        by_cases c5 : cnt > (rem1 - w2) / Dict.indexWidth dsz
        · rw [if_neg c3, if_neg c4, if_pos c5] at h; cases h
        rw [if_neg c3, if_neg c4, if_neg c5] at h
        have := Bounded.decIdx_length _ _ _ _ _ _ h
        have : ¬ cnt > cap := by simpa [Bounded.overCap] using c4
        omega

theorem dictArm_length (data : List Nat) (cap : Nat) (vs : List Nat) (h : dictArm data cap = some vs) :
    vs.length ≤ cap := by
  unfold dictArm at h
  split at h
  · cases h
  · cases h; exact Nat.zero_le _
  · rename_i hd
    cases h
    exact dictDecAux_length data _ cap _ hd

theorem bitmapArm_length (data : List Nat) (cap : Nat) (vs : List Nat) (h : bitmapArm data cap = some vs) :
    vs.length ≤ cap := by
  unfold bitmapArm at h
  split at h
  · cases h
  · cases h; exact Nat.zero_le _
  · split at h
    · cases h
    · split at h
      · cases h
      · cases h
        exact List.length_take_le cap _

theorem decTaggedLoop_length (lim : Nat) : ∀ (n off : Nat) (bs vs : List Nat),
    decTaggedLoop lim n off bs = some vs → vs.length ≤ n
  | 0, _, _, _, h => by cases h; exact Nat.zero_le _
  | n + 1, off, bs, vs, h => by
    unfold decTaggedLoop at h
    split at h
    · split at h
      · obtain ⟨r, hr, rfl⟩ := Option.map_eq_some_iff.mp h
        have := decTaggedLoop_length lim n _ _ r hr
        rw [List.length_cons]
        omega
      · cases h; exact Nat.zero_le _
      · cases h
    · cases h; exact Nat.zero_le _

/-- for ARBITRARY bytes and any capacity: whatever tag, whatever the codec finds, at most `maxCount` values are
    written -/
theorem decodeAll_length_le_cap (bs : List Nat) (cap : Nat) (vs : List Nat) (h : decodeAll bs cap = some vs) :
    vs.length ≤ cap := by
  cases bs with
  | nil => cases h
  | cons t data =>
    by_cases h0 : t = DELTA
    · rw [h0, decodeAll_delta] at h
      obtain ⟨⟨vs', k⟩, hd, rfl⟩ := Option.map_eq_some_iff.mp h
      exact Nat.le_of_eq (decU_length cap data vs' k hd)
    by_cases h1 : t = FOR_
    · rw [h1, decodeAll_for] at h
      split at h
      · rename_i hd
        cases h
        obtain ⟨_, _, hlen, hle⟩ := FOR.dec_length hd
        omega
      · cases h; exact Nat.zero_le _
      · cases h
    by_cases h2 : t = PFOR_
    · rw [h2, decodeAll_pfor] at h
      exact pforArm_length data cap vs h
    by_cases h3 : t = DICT
    · rw [h3, decodeAll_dict] at h
      exact dictArm_length data cap vs h
    by_cases h4 : t = BITMAP
    · rw [h4, decodeAll_bitmap] at h
      exact bitmapArm_length data cap vs h
    rw [decodeAll_tagged t ⟨h0, h1, h2, h3, h4⟩] at h
    exact decTaggedLoop_length _ cap 0 data vs h

theorem sum_len_le : ∀ l : List Nat, (l.map Tagged.len).sum ≤ 9 * l.length
  | [] => by simp
  | a :: t => by
    have := sum_len_le t
    have := (Tagged.len_bounds a).2
    simp only [List.map_cons, List.sum_cons, List.length_cons]
    omega

theorem maxSize_pos (xs : List Nat) (hne : xs ≠ []) : maxSize xs.length = 19 + 17 * xs.length := by
  have hpos : 0 < xs.length := List.length_pos_iff.mpr hne
  unfold maxSize
  rw [if_neg (by omega)]
  omega

theorem tagged_size (t : Nat) (ht : 5 ≤ t) (xs : List Nat) (hne : xs ≠ []) :
    (encodeWith t xs).length ≤ maxSize xs.length := by
  have := sum_len_le xs
  rw [encodeWith_tagged t (otherTag_of_le t ht), List.length_cons, Dict.length_flatMap_enc, maxSize_pos xs hne]
  omega

theorem delta_size (xs : List Nat) (hne : xs ≠ []) (hx : ∀ x ∈ xs, x < 2 ^ 64) :
    (encodeWith DELTA xs).length ≤ maxSize xs.length := by
  have hpos : 0 < xs.length := List.length_pos_iff.mpr hne
  have h := Delta.encU_length_le xs hx
  unfold Delta.maxSize at h
  rw [if_neg (by omega)] at h
  rw [encodeWith_delta, List.length_cons, maxSize_pos xs hne]
  omega

theorem for_size (xs : List Nat) (g : FOR.Good xs) :
    (encodeWith FOR_ xs).length ≤ maxSize xs.length := by
  have hpos : 0 < xs.length := List.length_pos_iff.mpr g.ne
  obtain ⟨_, _, _, hw8, _⟩ := FOR.analyze_facts xs g
  have h1 := (Tagged.len_bounds (FOR.analyze xs).minValue).2
  have h2 := (Tagged.len_bounds xs.length).2
  have h3 : xs.length * (FOR.analyze xs).offsetWidth ≤ xs.length * 8 := Nat.mul_le_mul_left _ hw8
  have he : (FOR.analyze xs).encodedSize = Tagged.len (FOR.analyze xs).minValue + 1 + Tagged.len xs.length +
      xs.length * (FOR.analyze xs).offsetWidth := rfl
  rw [encodeWith_for, List.length_cons, FOR.enc_length, he, maxSize_pos xs g.ne]
  omega

theorem dict_size (xs : List Nat) (hne : xs ≠ []) :
    (encodeWith DICT xs).length ≤ maxSize xs.length := by
  rw [encodeWith_dict, List.length_cons, maxSize_pos xs hne]
  by_cases hacc : Dict.enc xs = []
  · rw [hacc, List.length_nil]; omega
  · obtain ⟨_, hd⟩ := (Dict.enc_ne_nil_iff xs).mp hacc
    rw [Dict.enc_length xs hacc]
    unfold Dict.size
    rw [if_neg hne]
    simp only []
    rw [if_neg (by omega)]
    have h1 := (Tagged.len_bounds (Dict.build xs).length).2
    have h2 := (Tagged.len_bounds xs.length).2
    have h3 := sum_len_le (Dict.build xs)
    have h4 := Dict.build_length_le xs
    have h5 : xs.length * Dict.indexWidth (Dict.build xs).length ≤ xs.length * 8 :=
      Nat.mul_le_mul_left _ (indexWidth_le_8 _ hd)
    omega

theorem pfor_exc_le (xs : List Nat) (hne : xs ≠ []) (t : Nat) :
    (PFOR.compute xs t).exceptionCount + PFOR.thrIdx xs.length t + 1 ≤ xs.length := by
  have hpos : 0 < xs.length := List.length_pos_iff.mpr hne
  have hslen : (xs.mergeSort (· ≤ ·)).length = xs.length := List.length_mergeSort xs
  have hidx : PFOR.thrIdx xs.length t < (xs.mergeSort (· ≤ ·)).length := by
    rw [hslen]; exact PFOR.thrIdx_lt t hpos
  have hthr : (PFOR.compute xs t).thresholdValue = (xs.mergeSort (· ≤ ·))[PFOR.thrIdx xs.length t] := by
    rw [PFOR.compute_thr, List.getD_eq_getElem?_getD, List.getElem?_eq_getElem hidx, Option.getD_some]
  have hperm : (xs.mergeSort (· ≤ ·)).Perm xs := List.mergeSort_perm xs _
  have hcount : (xs.filter (· > (PFOR.compute xs t).thresholdValue)).length
      = ((xs.mergeSort (· ≤ ·)).filter (· > (PFOR.compute xs t).thresholdValue)).length :=
    (hperm.filter _).length_eq.symm
  have := filter_gt_sorted _ (sort_pairwise xs) _ hidx
  rw [PFOR.compute_exceptionCount, hcount, hthr]
  omega

/-- PFOR stays inside `varintAdaptiveMaxSize`: at most a twentieth of the values (plus one) are exceptions of at
    most 18 bytes each -/
theorem pfor_size (xs : List Nat) (g : PFOR.Good xs) :
    (encodeWith PFOR_ xs).length ≤ maxSize xs.length := by
  have hpos : 0 < xs.length := List.length_pos_iff.mpr g.1
  have f := PFOR.compute_facts xs g 95
  have hle := PFOR.enc_length_le_size xs g 95
  have hex := pfor_exc_le xs g.1 95
  have hidx : PFOR.thrIdx xs.length 95 = xs.length * 95 / 100 := by
    unfold PFOR.thrIdx
    rw [if_neg (by omega)]
  rw [hidx] at hex
  unfold PFOR.size at hle
  -- from here on the metadata is just a record `m` with these facts
  generalize PFOR.compute xs 95 = m at f hle hex
  have hl := g.2.1
  have hc := f.count_eq
  have hec := f.exc_le
  have h1 := (Tagged.len_bounds m.min).2
  have h2 : Tagged.len m.count ≤ 4 + 1 := Tagged.len_le (by omega) (by omega)
  have h3 : Tagged.len m.exceptionCount ≤ 4 + 1 := Tagged.len_le (by omega) (by omega)
  have h4 := (Tagged.len_bounds (m.count - 1)).2
  have h5 : m.count * m.width ≤ m.count * 8 := Nat.mul_le_mul_left _ f.width_le
  have h6 : m.exceptionCount * (Tagged.len (m.count - 1) + 9) ≤ m.exceptionCount * 18 :=
    Nat.mul_le_mul_left _ (by omega)
  rw [encodeWith_pfor, List.length_cons, maxSize_pos xs g.1]
  omega

theorem bitmap_size (xs : List Nat) (hne : xs ≠ []) :
    (encodeWith BITMAP xs).length ≤ maxSize xs.length := by
  have hfl : ∀ v ∈ xs.filter (· < 65536), v < 65536 := by
    intro v hv
    simpa using (List.mem_filter.mp hv).2
  obtain ⟨_, hi⟩ := Bitmap.addMany_spec _ Bitmap.init hfl Bitmap.inv_init
  obtain ⟨hsh, hcard⟩ := addMany_shape (xs.filter (· < 65536)) Bitmap.init shape_init
  have hlen := Bitmap.members_length _ hi
  have hfl2 := List.length_filter_le (· < 65536) xs
  have hc0 : Bitmap.init.card = 0 := rfl
  rw [encodeWith_bitmap, List.length_cons, maxSize_pos xs hne]
  unfold Bitmap.encode
  rcases hsh with ⟨hty, hle⟩ | ⟨hty, hgt⟩
  · rw [hty]
    simp only [List.length_cons, List.length_append, Bitmap.leB_eq, leBytes_length, funext (Bitmap.leB_eq 2),
      length_flatMap_leBytes, hlen]
    omega
  · rw [hty]
    simp only [List.length_cons, List.length_append, Bitmap.leB_eq, leBytes_length]
    omega

/-- whatever is selected (every outcome of the float comparisons), the output fits `varintAdaptiveMaxSize(count)`
    (since the PFOR percentile index is a 64-bit product this needs no bound beyond count < 2^32) -/
theorem adaptive_size_sel (φ : FloatPreds) (xs : List Nat) (hne : xs ≠ []) (hx : ∀ x ∈ xs, x < 2 ^ 64)
    (hn : xs.length < 2 ^ 32) :
    (encodeWith (selectWith φ (analyze xs)) xs).length ≤ maxSize xs.length := by
  rcases selectWith_spec φ (analyze xs) with h | h | ⟨h, _⟩ | h | h | h
  · rw [h]; exact tagged_size TAGGED (Nat.le_refl 5) xs hne
  · rw [h]; exact dict_size xs hne
  · rw [h]; exact bitmap_size xs hne
  · rw [h]; exact delta_size xs hne hx
  · rw [h]; exact pfor_size xs ⟨hne, hn, hx⟩
  · rw [h]; exact for_size xs ⟨hne, hx, by omega⟩

theorem adaptive_size (xs : List Nat) (hne : xs ≠ []) (hx : ∀ x ∈ xs, x < 2 ^ 64)
    (hn : xs.length < 2 ^ 32) : (encode xs).length ≤ maxSize xs.length :=
  adaptive_size_sel (floatPreds (analyze xs)) xs hne hx hn

example : decodeAll (encodeWith PFOR_ [5, 2 ^ 64 - 1, 7, 7] ++ [1, 2]) 4 = some [5, 2 ^ 64 - 1, 7, 7] :=
  pfor_forced [5, 2 ^ 64 - 1, 7, 7] ⟨by simp, by simp, by simp⟩ [1, 2]

example : decodeAll (encodeWith DICT [9, 9, 300, 9] ++ [0]) 4 = some [9, 9, 300, 9] :=
  dict_forced [9, 9, 300, 9] (by simp) (by simp) (Dict.enc_ne_nil_of_length_le _ (by simp) (by decide)) [0]

example : decodeAll (encodeWith BITMAP [3, 4, 900, 65535] ++ [1]) 4 = some [3, 4, 900, 65535] :=
  bitmap_forced_cap [3, 4, 900, 65535] (by decide) (by simp) [1] 4

example : decodeAll (encodeWith 77 [9, 70000]) 2 = some [9, 70000] := by decide

end Varint.Adaptive
