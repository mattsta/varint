import Varint.Lemmas.Chained
import Varint.Lemmas.Split
import Varint.Lemmas.External
import Varint.Lemmas.Tagged
import Varint.Lemmas.Mono
/-
  Decoder-side canonicity of the scalar wire formats.
  For a family with decoder `dec`, encoder `enc` and length function `len`:
    (a) whatever decodes to `v` consuming `l` bytes has `len v ≤ l`;
    (b) if `l = len v` the consumed bytes are exactly `enc v`.
  Both hold for every list of bytes for chained, chained-simple, tagged and external (either byte order);
  for external, (a) is for a read width `w ≥ 1`.
  The split families need side conditions; the concrete byte strings that violate the
  unconditional statements are recorded as `example`s next to the theorems.
-/
namespace Varint

/-! ## chained (sqlite3 varint) -/
namespace Chained

/-- what the reader accepted, read back from its result: `n + 1` bytes consumed after the first `i`, namely `n` flagged
    groups and a last byte `v % B`, which holds seven bits below nine bytes and all eight at nine; the groups of `v / B`
    above the `n` consumed ones are `acc` -/
theorem decAux_inv (fuel i acc : Nat) (bs : List Nat) (v l : Nat)
    (hb : ∀ b ∈ bs, b < 256) (hi : i ≤ 8) (hf : 9 ≤ i + fuel)
    (h : decAux fuel i acc bs = some (v, l)) :
    ∃ n B, l = i + n + 1 ∧ ((B = 128 ∧ l ≤ 8) ∨ (B = 256 ∧ l = 9)) ∧ v / B / 128 ^ n = acc ∧
      bs.take (n + 1) = flagged n (v / B) ++ [v % B] := by
  induction fuel generalizing i acc bs with
  | zero => omega
  | succ fuel ih =>
    cases bs with
    | nil => simp [decAux] at h
    | cons b rest =>
      have hb0 : b < 256 := hb b (by simp)
      unfold decAux at h
      by_cases h8 : i = 8
      · rw [if_pos h8] at h
        simp only [Option.some.injEq, Prod.mk.injEq] at h
        refine ⟨0, 256, by omega, Or.inr ⟨rfl, by omega⟩, ?_, ?_⟩
        · rw [Nat.pow_zero, Nat.div_one]; omega
        · simp only [List.take_succ_cons, List.take_zero, flagged, List.nil_append, List.cons.injEq, and_true]
          omega
      · rw [if_neg h8] at h
        by_cases hlt : b < 128
        · rw [if_pos hlt] at h
          simp only [Option.some.injEq, Prod.mk.injEq] at h
          refine ⟨0, 128, by omega, Or.inl ⟨rfl, by omega⟩, ?_, ?_⟩
          · rw [Nat.pow_zero, Nat.div_one]; omega
          · simp only [List.take_succ_cons, List.take_zero, flagged, List.nil_append, List.cons.injEq, and_true]
            omega
        · rw [if_neg hlt] at h
          obtain ⟨m, B, hl, hB, hq, htk⟩ := ih (i + 1) (acc * 128 + (b - 128)) rest
            (fun x hx => hb x (List.mem_cons_of_mem _ hx)) (by omega) (by omega) h
          refine ⟨m + 1, B, by omega, hB, ?_, ?_⟩
          · rw [Nat.pow_succ, ← Nat.div_div_eq_div_mul, hq]; omega
          · rw [List.take_succ_cons, htk, flagged, hq]
            simp only [List.cons_append, List.cons.injEq, and_true]
            omega

/-- (a) no accepted encoding is shorter than the encoder's -/
theorem dec_len_le (bs : List Nat) (v l : Nat) (hb : ∀ b ∈ bs, b < 256)
    (h : dec bs = some (v, l)) : len v ≤ l := by
  obtain ⟨n, B, hl, hB, hq, _⟩ := decAux_inv 9 0 0 bs v l hb (by omega) (by omega) h
  rcases hB with ⟨rfl, _⟩ | ⟨_, hl9⟩
  · have hlt : v < 128 ^ (n + 1) := by
      rw [Nat.div_div_eq_div_mul, Nat.mul_comm, ← Nat.pow_succ] at hq
      exact (Nat.div_eq_zero_iff_lt (Nat.pow_pos (by omega))).mp hq
    have := len7_le_of_lt (k := n + 1) (by omega) hlt
    unfold len; split <;> omega
  · have := (len_bounds v).2; omega

/-- (b) within the encoder's length class the accepted bytes are the encoder's bytes: both are flagged groups and a
    last byte to the same base -/
theorem dec_canonical (bs : List Nat) (v l : Nat) (hb : ∀ b ∈ bs, b < 256)
    (h : dec bs = some (v, l)) (hl : l = len v) : bs.take l = enc v := by
  obtain ⟨n, B, hln, hB, hq, htk⟩ := decAux_inv 9 0 0 bs v l hb (by omega) (by omega) h
  have hv : v < 2 ^ 64 := by
    have h1 : v / B < 128 ^ n := (Nat.div_eq_zero_iff_lt (Nat.pow_pos (by omega))).mp hq
    have h2 : 128 ^ n ≤ 128 ^ 8 := Nat.pow_le_pow_right (by omega) (by omega)
    rcases hB with ⟨rfl, _⟩ | ⟨rfl, _⟩ <;> omega
  obtain ⟨B', he, _, hB'⟩ := enc_eq v hv
  obtain rfl : B' = B := by omega
  rw [he, ← hl, show l - 1 = n by omega, ← htk, show l = n + 1 by omega]

/-- over-long encodings exist (leading zero groups), so (a) cannot be an equality -/
example : dec [0x80, 0x00] = some (0, 2) ∧ len 0 = 1 := by decide

end Chained

/-! ## chained-simple (LEB128 capped at nine bytes) -/
namespace ChainedSimple

/-- what the reader accepted, read back from its result -/
theorem decAux_inv (fuel i acc : Nat) (bs : List Nat) (v l : Nat)
    (hb : ∀ b ∈ bs, b < 256) (hi : i ≤ 8)
    (h : decAux fuel i acc bs = some (v, l)) :
    ∃ n x, l = i + n + 1 ∧ l ≤ 9 ∧ v = acc + x * 2 ^ (7 * i) ∧ bs.take (n + 1) = lebFix n x ∧
      (l ≤ 8 → x < 128 ^ (n + 1)) ∧ x < 128 ^ n * 256 := by
  induction fuel generalizing i acc bs with
  | zero => simp [decAux] at h
  | succ fuel ih =>
    cases bs with
    | nil => simp [decAux] at h
    | cons b rest =>
      have hb0 : b < 256 := hb b (by simp)
      have hrest : ∀ x ∈ rest, x < 256 := fun x hx => hb x (by simp [hx])
      unfold decAux at h
      by_cases hc : b ≥ 128 ∧ i < 8
      · rw [if_pos hc] at h
        obtain ⟨m, y, hl, hl9, hv, htk, hy8, hy9⟩ :=
          ih (i + 1) (acc + (b % 128) * 2 ^ (7 * i)) rest hrest (by omega) h
        refine ⟨m + 1, b % 128 + 128 * y, by omega, hl9, ?_, ?_, ?_, ?_⟩
        · have e : 2 ^ (7 * (i + 1)) = 128 * 2 ^ (7 * i) := by
            rw [show 7 * (i + 1) = 7 * i + 7 by omega, Nat.pow_add]; omega
          rw [hv, e, Nat.add_mul, Nat.mul_assoc 128 y, Nat.mul_left_comm y 128]
          omega
        · rw [List.take_succ_cons, htk, lebFix]
          have e1 : (b % 128 + 128 * y) % 128 + 128 = b := by omega
          have e2 : (b % 128 + 128 * y) / 128 = y := by omega
          rw [e1, e2]
        · intro h8
          have := hy8 h8
          rw [show (128 : Nat) ^ (m + 1 + 1) = 128 ^ (m + 1) * 128 by rw [Nat.pow_succ]]
          generalize 128 ^ (m + 1) = M at this ⊢
          omega
        · have e : 128 ^ (m + 1) * 256 = 128 ^ m * 256 * 128 := by
            rw [Nat.pow_succ, Nat.mul_assoc, Nat.mul_assoc, Nat.mul_comm 128 256]
          rw [e]
          generalize 128 ^ m * 256 = M at hy9 ⊢
          omega
      · rw [if_neg hc] at h
        simp only [Option.some.injEq, Prod.mk.injEq] at h
        obtain ⟨hv, hl⟩ := h
        refine ⟨0, b, by omega, by omega, hv.symm, ?_, ?_, ?_⟩
        · simp [lebFix]
        · intro h8; simp only [Nat.zero_add, Nat.pow_one]; omega
        · simp only [Nat.pow_zero, Nat.one_mul]; exact hb0

/-- (a) no accepted encoding is shorter than the encoder's -/
theorem dec_len_le (bs : List Nat) (v l : Nat) (hb : ∀ b ∈ bs, b < 256)
    (h : dec bs = some (v, l)) : len v ≤ l := by
  obtain ⟨n, x, hl, hl9, hv, _, hx8, _⟩ := decAux_inv 10 0 0 bs v l hb (by omega) h
  simp only [Nat.mul_zero, Nat.pow_zero, Nat.mul_one, Nat.zero_add] at hv hl
  subst hv
  by_cases h8 : l ≤ 8
  · have := len7_le_of_lt (k := n + 1) (by omega) (hx8 h8)
    unfold len; split <;> omega
  · have := (len_bounds v).2; omega

/-- (b) within the encoder's length class the accepted bytes are the encoder's bytes -/
theorem dec_canonical (bs : List Nat) (v l : Nat) (hb : ∀ b ∈ bs, b < 256)
    (h : dec bs = some (v, l)) (hl : l = len v) : bs.take l = enc v := by
  obtain ⟨n, x, hln, hl9, hv, htk, hx8, hx9⟩ := decAux_inv 10 0 0 bs v l hb (by omega) h
  simp only [Nat.mul_zero, Nat.pow_zero, Nat.mul_one, Nat.zero_add] at hv hln
  subst hv
  have hlo : n = 0 ∨ 128 ^ n ≤ v := by
    by_cases hn : n = 0
    · exact Or.inl hn
    · right
      have hl7 : n + 1 ≤ len7 v := by
        unfold len at hl; split at hl <;> omega
      obtain ⟨k, hk⟩ : ∃ k, len7 v = k + 2 := ⟨len7 v - 2, by omega⟩
      exact Nat.le_trans (Nat.pow_le_pow_right (by omega) (by omega)) (pow_le_of_len7 hk)
  have hhi : v < 128 ^ (n + 1) ∨ (0 + n = 8 ∧ v < 128 ^ n * 256) := by
    by_cases h8 : l ≤ 8
    · exact Or.inl (hx8 h8)
    · exact Or.inr ⟨by omega, hx9⟩
  unfold enc
  rw [encAux_eq_lebFix n 9 0 v (by omega) (by omega) hlo hhi, ← htk, hln]

/-- over-long encodings exist (trailing zero groups), so (a) cannot be an equality -/
example : dec [0x80, 0x00] = some (0, 2) ∧ len 0 = 1 := by decide

end ChainedSimple

/-! ## tagged (sqlite4 varint) -/
namespace Tagged

/-- (a) whatever decodes to `v` is at least as long as the encoder's output -/
theorem get_len_le (bs : List Nat) (v l : Nat) (hb : ∀ b ∈ bs, b < 256) (h : get bs = .ok v l) : len v ≤ l := by
  obtain ⟨-, ha⟩ := getN_ok h
  cases ha with
  | one rest h1 => exact Nat.le_trans (len_mono (b := 240) h1) (by decide)
  | two b1 rest h1 h2 =>
    have := hb b1 (by simp)
    exact Nat.le_trans (len_mono (b := 2287) (by omega)) (by decide)
  | three b1 b2 rest =>
    have := hb b1 (by simp)
    have := hb b2 (by simp)
    exact Nat.le_trans (len_mono (b := 67823) (by simp only [ofBe, List.length]; omega)) (by decide)
  | wide p rest hp h3 h8 =>
    have := ofBe_lt p fun x hx => hb x (by simp [hx])
    rw [hp] at this
    exact len_le h3 this

/-- (b) within the encoder's length class the accepted bytes are the encoder's bytes -/
theorem get_canonical (bs : List Nat) (v l : Nat) (hb : ∀ b ∈ bs, b < 256)
    (h : get bs = .ok v l) (hl : l = len v) : bs.take l = enc v := by
  obtain ⟨-, ha⟩ := getN_ok h
  cases ha with
  | one rest h1 =>
    rcases shape v with ⟨-, -, he⟩ | ⟨_, _⟩ | ⟨_, _⟩ | ⟨_, _⟩ <;> try omega
    rw [he]; rfl
  | @two b0 b1 rest h1 h2 =>
    have := hb b1 (by simp)
    rcases shape ((b0 - 241) * 256 + b1 + 240) with ⟨_, _⟩ | ⟨_, _, -, he⟩ | ⟨_, _⟩ | ⟨_, _⟩ <;> try omega
    rw [he]
    simp only [List.take_succ_cons, List.take_zero, List.cons.injEq, and_true]
    omega
  | three b1 b2 rest =>
    have := hb b1 (by simp)
    have := hb b2 (by simp)
    have hv : 2288 + ofBe [b1, b2] = 2288 + (b1 * 256 + b2) := by simp only [ofBe, List.length]; omega
    rw [hv] at hl ⊢
    rcases shape (2288 + (b1 * 256 + b2)) with ⟨_, _⟩ | ⟨_, _⟩ | ⟨_, _, -, he⟩ | ⟨_, _⟩ <;> try omega
    rw [he]
    simp only [List.take_succ_cons, List.take_zero, List.cons.injEq, and_true, true_and]
    omega
  | @wide k p rest hp h3 h8 =>
    have hp' : ∀ x ∈ p, x < 256 := fun x hx => hb x (by simp [hx])
    have := ofBe_lt p hp'
    rw [hp] at this
    have := extLen_le_of_lt (by omega) this
    rcases shape (ofBe p) with ⟨_, _⟩ | ⟨_, _⟩ | ⟨_, _⟩ | ⟨_, hl', he⟩ <;> try omega
    rw [he, show min (extLen (ofBe p)) 8 = k by omega, List.take_succ_cons, ← hp, List.take_left, beBytes_ofBe p hp']

example : get [241, 0] = .ok 240 2 ∧ len 240 = 1 := by decide

end Tagged

/-! ## external (width out of band): a `w`-byte slice is determined by its value -/

/-- a successful read of `w` bytes decoded by `val`: what was decoded is `bs.take w` -/
theorem read_some {val : List Nat → Nat} {bs : List Nat} {w v : Nat} (hb : ∀ b ∈ bs, b < 256)
    (h : (takeExact w bs).map val = some v) :
    (bs.take w).length = w ∧ (∀ x ∈ bs.take w, x < 256) ∧ val (bs.take w) = v := by
  cases hp : takeExact w bs with
  | none => rw [hp] at h; simp at h
  | some p =>
    rw [hp] at h
    obtain ⟨rfl, _, hlen⟩ := takeExact_some hp
    exact ⟨hlen, fun x hx => hb x (List.mem_of_mem_take hx), by simpa using h⟩

/-- (a) for either byte order: `val` is `ofLe` / `ofBe` -/
theorem read_len_le {val : List Nat → Nat} (hval : ∀ p : List Nat, (∀ x ∈ p, x < 256) → val p < 256 ^ p.length)
    {bs : List Nat} {w v : Nat} (hb : ∀ b ∈ bs, b < 256) (hw : 1 ≤ w)
    (h : (takeExact w bs).map val = some v) : extLen v ≤ w := by
  obtain ⟨hlen, hlt, rfl⟩ := read_some hb h
  have := hval _ hlt
  rw [hlen] at this
  exact extLen_le_of_lt hw this

/-- (b) for either byte order: `bytes` is `leBytes` / `beBytes` -/
theorem read_canonical {val : List Nat → Nat} {bytes : Nat → Nat → List Nat}
    (hbytes : ∀ p : List Nat, (∀ x ∈ p, x < 256) → bytes p.length (val p) = p)
    {bs : List Nat} {w v : Nat} (hb : ∀ b ∈ bs, b < 256) (h : (takeExact w bs).map val = some v)
    (hl : w = extLen v) : bs.take w = bytes (extLen v) v := by
  obtain ⟨hlen, hlt, rfl⟩ := read_some hb h
  have := hbytes _ hlt
  rw [hlen] at this
  rw [← hl, this]

namespace External

/-- (a) a `w`-byte read (`w ≥ 1`) never yields a value whose minimal width exceeds `w` -/
theorem get_len_le (bs : List Nat) (w v : Nat) (hb : ∀ b ∈ bs, b < 256) (hw : 1 ≤ w)
    (h : get bs w = some v) : extLen v ≤ w :=
  read_len_le ofLe_lt hb hw h

/-- (b) read at the value's own minimal width, the bytes are the encoder's bytes -/
theorem get_canonical (bs : List Nat) (w v : Nat) (hb : ∀ b ∈ bs, b < 256)
    (h : get bs w = some v) (hl : w = extLen v) : bs.take w = enc v :=
  read_canonical leBytes_ofLe hb h hl

/-- a wider read accepts zero padding: only `≤` holds in (a) -/
example : get [5, 0] 2 = some 5 ∧ extLen 5 = 1 := by decide
/-- width 0 reads the value 0, whose encoder width is 1: hence `1 ≤ w` in (a) -/
example : get [] 0 = some 0 ∧ extLen 0 = 1 := by decide

end External

namespace ExternalBE

theorem get_len_le (bs : List Nat) (w v : Nat) (hb : ∀ b ∈ bs, b < 256) (hw : 1 ≤ w)
    (h : get bs w = some v) : extLen v ≤ w :=
  read_len_le ofBe_lt hb hw h

theorem get_canonical (bs : List Nat) (w v : Nat) (hb : ∀ b ∈ bs, b < 256)
    (h : get bs w = some v) (hl : w = extLen v) : bs.take w = enc v :=
  read_canonical beBytes_ofBe hb h hl

end ExternalBE

/-! ## split families -/
namespace Split

/-- an embedded level read back: value range, and the consumed bytes are that level's encoding of the value.
    `hfit`: the level's largest value does not wrap. -/
theorem level_canon (tag k sub b0 : Nat) (rest : List Nat) (v l : Nat)
    (hb : ∀ x ∈ rest, x < 256) (hfit : sub + 64 * 256 ^ k ≤ 2 ^ 64)
    (h : decLevel k sub b0 rest = some (v, l)) :
    l = 1 + k ∧ sub ≤ v ∧ v < sub + 64 * 256 ^ k ∧
      (b0 = tag + b0 % 64 → (b0 :: rest).take l = encLevel tag k sub v) := by
  obtain ⟨hk, hl, hv⟩ := decLevel_some h
  have hr := ofBe_take_lt hb hk
  -- the six value bits and the payload are the `k + 1` big-endian bytes of what was read
  have hcons : beBytes (k + 1) (b0 % 64 * 256 ^ k + ofBe (rest.take k)) = b0 % 64 :: rest.take k := by
    rw [Nat.add_comm (b0 % 64 * 256 ^ k), beBytes_succ_add hr (b := b0 % 64) (by omega), beBytes_ofBe_take hb hk]
  rw [beBytes, List.cons.injEq] at hcons
  have hq : b0 % 64 * 256 ^ k ≤ 63 * 256 ^ k := Nat.mul_le_mul_right _ (by omega)
  rw [Nat.mod_eq_of_lt (by omega)] at hv
  refine ⟨hl, by omega, by omega, fun hb0 => ?_⟩
  rw [encLevel_eq, show v - sub = b0 % 64 * 256 ^ k + ofBe (rest.take k) by omega, hcons.2, hl, Nat.add_comm 1 k,
    List.take_succ_cons]
  congr 1
  omega

/-- for a monotone length function `len` whose value at the level's maximum `m` is the level's `1 + k`: what was read
    from the level is not shorter than the encoder's form -/
theorem level_len_le {len : Nat → Nat} (hmono : ∀ {a b}, a ≤ b → len a ≤ len b) (k sub m : Nat) {b0 : Nat}
    {rest : List Nat} {v l : Nat} (hb : ∀ x ∈ rest, x < 256) (hfit : sub + 64 * 256 ^ k ≤ m + 1) (hm : m < 2 ^ 64)
    (hlen : len m ≤ 1 + k) (h : decLevel k sub b0 rest = some (v, l)) : len v ≤ l := by
  obtain ⟨hl, _, hhi, _⟩ := level_canon 0 k sub b0 rest v l hb (by omega) h
  rw [hl]
  exact Nat.le_trans (hmono (by omega)) hlen

/-- and if it has the encoder's length, the value lies above the previous level's maximum `lo` and the bytes are the
    level's encoding -/
theorem level_canonical {len : Nat → Nat} (hmono : ∀ {a b}, a ≤ b → len a ≤ len b) (tag k sub lo m : Nat) {b0 : Nat}
    {rest : List Nat} {v l : Nat} (hb : ∀ x ∈ rest, x < 256) (hfit : sub + 64 * 256 ^ k ≤ m + 1) (hm : m < 2 ^ 64)
    (hlo : len lo ≤ k) (h : decLevel k sub b0 rest = some (v, l)) (hl : l = len v) (hb0 : b0 = tag + b0 % 64) :
    lo < v ∧ v ≤ m ∧ (b0 :: rest).take l = encLevel tag k sub v := by
  obtain ⟨hl', _, hhi, htk⟩ := level_canon tag k sub b0 rest v l hb (by omega) h
  refine ⟨Nat.lt_of_not_le fun hle => ?_, by omega, htk hb0⟩
  have := Nat.le_trans (hmono hle) hlo
  omega

/-- the var level read back with an announced width of at least the encoder's minimum: never shorter than the
    encoder's form (a wrapped sum takes all eight bytes) -/
theorem var_len_le (varSub minW w : Nat) (rest : List Nat) (v l : Nat)
    (hb : ∀ x ∈ rest, x < 256) (hm : 1 ≤ minW) (hmw : minW ≤ w)
    (h : decVar varSub w rest = some (v, l)) : lenVar varSub minW v ≤ l := by
  obtain ⟨hk, hl, hv⟩ := decVar_some h
  have hr := ofLe_take_lt hb hk
  have hle : v ≤ ofLe (rest.take w) + varSub := hv ▸ Nat.mod_le _ _
  rw [hl, lenVar_eq]
  exact Nat.add_le_add_left ((varW_le_iff varSub minW v w hmw hm).mpr (by omega)) 1

/-- the var level read back with a width of at most 8: a value below the offset means the sum wrapped, which takes
    all eight bytes; the offset itself is spelt with zero bytes; and at the encoder's width the bytes are the encoder's -/
theorem var_canon (varTag varSub minW w b0 : Nat) (rest : List Nat) (v l : Nat)
    (hb : ∀ x ∈ rest, x < 256) (hsub : varSub < 2 ^ 32)
    (h : decVar varSub w rest = some (v, l)) :
    l = 1 + w ∧ v < 2 ^ 64 ∧
    (w ≤ 8 → v < varSub → w = 8) ∧
    (w ≤ 8 → varSub ≤ v →
      v - varSub < 256 ^ w ∧ (v = varSub → rest.take w = leBytes w 0) ∧
      (b0 = varTag + w → varW varSub minW v = w →
        (b0 :: rest).take l = encVar varTag varSub minW v)) := by
  obtain ⟨hk, hl, hv⟩ := decVar_some h
  have hr := ofLe_take_lt hb hk
  have hle := leBytes_ofLe_take hb hk
  refine ⟨hl, by rw [hv]; exact Nat.mod_lt _ (by omega), fun hw8 hlt => ?_, fun hw8 hge => ?_⟩
  · apply Classical.byContradiction
    intro hne
    have := Nat.pow_le_pow_right (n := 256) (by omega) (show w ≤ 7 by omega)
    omega
  · have := Nat.pow_le_pow_right (n := 256) (by omega) hw8
    have hvu : v = ofLe (rest.take w) + varSub := by omega
    refine ⟨by omega, fun hveq => ?_, fun hb0 hW => ?_⟩
    · rw [← hle, show ofLe (rest.take w) = 0 by omega]
    · rw [encVar_eq, hW, show v - varSub = ofLe (rest.take w) by omega, hle, hl, Nat.add_comm 1 w,
        List.take_succ_cons, hb0]

/-! ### varintSplit -/

/-- (a) provided the first byte is neither the reserved prefix `11` (the reader
    reports length 0) nor the var tag announcing width 0 -/
theorem S.dec_len_le (bs : List Nat) (v l : Nat) (hb : ∀ b ∈ bs, b < 256)
    (hw : ∀ b0 ∈ bs.head?, b0 < 192 ∧ b0 ≠ 128)
    (h : S.dec bs = some (v, l)) : S.len v ≤ l := by
  cases bs with
  | nil => simp [S.dec] at h
  | cons b0 rest =>
    have hrest : ∀ x ∈ rest, x < 256 := fun x hx => hb x (List.mem_cons_of_mem _ hx)
    have hw0 := hw b0 rfl
    by_cases h0 : b0 < 64
    · rw [S.dec, if_pos h0] at h
      exact level_len_le S.len_mono 0 0 63 hrest (by omega) (by omega) (by decide) h
    by_cases h1 : b0 < 128
    · rw [S.dec, if_neg h0, if_pos h1] at h
      exact level_len_le S.len_mono 1 63 16446 hrest (by omega) (by omega) (by decide) h
    rw [S.dec, if_neg h0, if_neg h1, if_pos (by omega)] at h
    exact Nat.le_trans (S.len_le_lenVar v) (var_len_le 16446 1 (b0 % 64) rest v l hrest (by omega) (by omega) h)

/-- (b) provided the bytes are not the var-level spelling `[129, 0]` of the
    level-1 maximum 16446 (whose encoder output `[127, 255]` has the same length) -/
theorem S.dec_canonical (bs : List Nat) (v l : Nat) (hb : ∀ b ∈ bs, b < 256)
    (hx : bs.take 2 ≠ [129, 0])
    (h : S.dec bs = some (v, l)) (hl : l = S.len v) : bs.take l = S.enc v := by
  cases bs with
  | nil => simp [S.dec] at h
  | cons b0 rest =>
    have hrest : ∀ x ∈ rest, x < 256 := fun x hx => hb x (List.mem_cons_of_mem _ hx)
    by_cases h0 : b0 < 64
    · rw [S.dec, if_pos h0] at h
      obtain ⟨_, _, hhi, htk⟩ := level_canon 0 0 0 b0 rest v l hrest (by omega) h
      rw [htk (by omega), S.enc, if_pos (by omega)]
    by_cases h1 : b0 < 128
    · rw [S.dec, if_neg h0, if_pos h1] at h
      obtain ⟨hr, hhi, htk⟩ := level_canonical S.len_mono 64 1 63 63 16446 hrest (by omega) (by omega)
        (by decide) h hl (by omega)
      rw [htk, S.enc, if_neg (by omega), if_pos hhi]
    by_cases hres : 192 ≤ b0
    · -- the reserved prefix reports length 0, which no value has
      simp only [S.dec] at h
      rw [if_neg h0, if_neg h1, if_neg (by omega)] at h
      simp only [Option.some.injEq, Prod.mk.injEq] at h
      have := (S.len_bounds v (by omega)).1
      omega
    rw [S.dec, if_neg h0, if_neg h1, if_pos (by omega)] at h
    obtain ⟨hl', hv64, hwrap, hok⟩ := var_canon 128 16446 1 (b0 % 64) b0 rest v l hrest (by omega) h
    have hw8 : b0 % 64 ≤ 8 := by
      have := (S.len_bounds v hv64).2
      omega
    rcases Nat.lt_trichotomy v 16446 with hlt | heq | hgt
    · -- the sum wrapped: nine bytes for a value the encoder gives at most two
      have := hwrap hw8 hlt
      have := Nat.le_trans (S.len_mono (Nat.le_of_lt hlt)) (show S.len 16446 ≤ 2 by decide)
      omega
    · obtain ⟨_, hz, _⟩ := hok hw8 (by omega)
      have hlen : S.len v = 2 := by rw [heq]; rfl
      have htl := hz heq
      rw [show b0 % 64 = 1 by omega] at htl
      exact absurd (by rw [show b0 = 129 by omega, List.take_succ_cons, htl]; rfl) hx
    · obtain ⟨_, _, htk⟩ := hok hw8 (by omega)
      have hW : varW 16446 1 v = b0 % 64 := by
        rw [S.len, if_neg (by omega), if_neg (by omega), lenVar_eq] at hl
        omega
      rw [htk (by omega) hW, S.enc, if_neg (by omega), if_neg (by omega)]

/-- accepted encodings that are not the encoder's: over-long (level 1 holding a level-0 value), SHORTER than the
    encoder's (var tag with width 0), a second spelling in the same length class, and the reserved prefix -/
example : S.dec [64, 0] = some (63, 2) ∧ S.len 63 = 1 := by decide
example : S.dec [128] = some (16446, 1) ∧ S.len 16446 = 2 := by decide
example : S.dec [129, 0] = some (16446, 2) ∧ S.len 16446 = 2 ∧ S.enc 16446 = [127, 255] := by decide
example : S.dec [192] = some (0, 0) ∧ S.len 0 = 1 := by decide

/-! ### varintSplitFull, varintSplitFullNoZero, varintSplitFull16 -/

namespace Full
variable {enc : Nat → List Nat} {len : Nat → Nat} {dec : List Nat → Option (Nat × Nat)} {getLen getLenQuick : Nat → Nat}
  {k0 k1 k2 s0 m0 m1 m2 minW : Nat} (h : Full enc len dec getLen getLenQuick k0 k1 k2 s0 m0 m1 m2 minW)
include h

/-- the maxima rise, and each is a value of its level's length -/
theorem maxima : m0 < m1 ∧ m1 < m2 ∧ len m0 = 1 + k0 ∧ len m1 = 1 + k1 ∧ len m2 = 1 + k2 := by
  have p1 := Nat.pow_pos (n := k1) (show 0 < 256 by omega)
  have p2 := Nat.pow_pos (n := k2) (show 0 < 256 by omega)
  have f1 := h.fit1
  have f2 := h.fit2
  refine ⟨by omega, by omega, ?_, ?_, ?_⟩
  · rw [h.len_eq, if_pos (Nat.le_refl _)]
  · rw [h.len_eq, if_neg (by omega), if_pos (Nat.le_refl _)]
  · rw [h.len_eq, if_neg (by omega), if_neg (by omega), if_pos (Nat.le_refl _)]

/-- (a) provided a var tag announces at least the encoder's minimum width -/
theorem dec_len_le (bs : List Nat) (v l : Nat) (hb : ∀ b ∈ bs, b < 256)
    (hw : ∀ b0 ∈ bs.head?, b0 < 192 ∨ minW ≤ b0 % 16)
    (hd : dec bs = some (v, l)) : len v ≤ l := by
  obtain ⟨h01, h12, l0, l1, l2⟩ := h.maxima
  have hm2 := h.m2_lt
  have hk01 := h.k0_lt_k1
  have hk12 := h.k1_lt_k2
  have hkw := h.k2_le_minW
  cases bs with
  | nil => simp [h.dec_nil] at hd
  | cons b0 rest =>
    have hrest : ∀ x ∈ rest, x < 256 := fun x hx => hb x (List.mem_cons_of_mem _ hx)
    have hw0 := hw b0 rfl
    rw [h.dec_cons] at hd
    by_cases c0 : b0 < 64
    · rw [if_pos c0] at hd
      exact level_len_le h.len_mono k0 s0 m0 hrest (Nat.le_of_eq h.fit0) (by omega) (Nat.le_of_eq l0) hd
    rw [if_neg c0] at hd
    by_cases c1 : b0 < 128
    · rw [if_pos c1] at hd
      exact level_len_le h.len_mono k1 m0 m1 hrest (Nat.le_of_eq h.fit1) (by omega) (Nat.le_of_eq l1) hd
    rw [if_neg c1] at hd
    by_cases c2 : b0 < 192
    · rw [if_pos c2] at hd
      exact level_len_le h.len_mono k2 m1 m2 hrest (Nat.le_of_eq h.fit2) (by omega) (Nat.le_of_eq l2) hd
    rw [if_neg c2] at hd
    exact Nat.le_trans (h.len_le_lenVar v) (var_len_le m2 minW (b0 % 16) rest v l hrest (by omega) (by omega) hd)

/-- (b) provided bits 4-5 of a var tag are clear (the reader ignores them), and the bytes are not the var-level
    spelling (tag `192 + k2`, then `k2` zero bytes) of the last embedded level's maximum -/
theorem dec_canonical (bs : List Nat) (v l : Nat) (hb : ∀ b ∈ bs, b < 256)
    (h208 : ∀ b0 ∈ bs.head?, b0 < 208)
    (hx : bs.take (1 + k2) ≠ (192 + k2) :: leBytes k2 0)
    (hd : dec bs = some (v, l)) (hl : l = len v) : bs.take l = enc v := by
  obtain ⟨h01, h12, l0, l1, l2⟩ := h.maxima
  have hm2 := h.m2_lt
  have hk01 := h.k0_lt_k1
  have hk12 := h.k1_lt_k2
  have hk8 := h.k2_lt
  have f0 := h.fit0
  have f1 := h.fit1
  have f2 := h.fit2
  cases bs with
  | nil => simp [h.dec_nil] at hd
  | cons b0 rest =>
    have hrest : ∀ x ∈ rest, x < 256 := fun x hx => hb x (List.mem_cons_of_mem _ hx)
    have hw0 := h208 b0 rfl
    rw [h.dec_cons] at hd
    by_cases c0 : b0 < 64
    · rw [if_pos c0] at hd
      obtain ⟨_, _, hhi, htk⟩ := level_canon 0 k0 s0 b0 rest v l hrest (by omega) hd
      rw [htk (by omega), h.enc_eq, if_pos (by omega)]
    rw [if_neg c0] at hd
    by_cases c1 : b0 < 128
    · rw [if_pos c1] at hd
      obtain ⟨hr, hhi, htk⟩ := level_canonical h.len_mono 64 k1 m0 m0 m1 hrest (Nat.le_of_eq f1) (by omega) (by omega)
        hd hl (by omega)
      rw [htk, h.enc_eq, if_neg (by omega), if_pos hhi]
    rw [if_neg c1] at hd
    by_cases c2 : b0 < 192
    · rw [if_pos c2] at hd
      obtain ⟨hr, hhi, htk⟩ := level_canonical h.len_mono 128 k2 m1 m1 m2 hrest (Nat.le_of_eq f2) (by omega) (by omega)
        hd hl (by omega)
      rw [htk, h.enc_eq, if_neg (by omega), if_neg (by omega), if_pos hhi]
    rw [if_neg c2] at hd
    obtain ⟨hl', hv64, hwrap, hok⟩ := var_canon 192 m2 minW (b0 % 16) b0 rest v l hrest hm2 hd
    have hw8 : b0 % 16 ≤ 8 := by
      have := (h.len_bounds v hv64).2
      omega
    rcases Nat.lt_trichotomy v m2 with hlt | heq | hgt
    · -- the sum wrapped: nine bytes for a value the encoder gives at most `1 + k2`
      have := hwrap hw8 hlt
      have := h.len_mono (Nat.le_of_lt hlt)
      omega
    · obtain ⟨_, hz, _⟩ := hok hw8 (by omega)
      have hlen : len v = 1 + k2 := by rw [heq]; exact l2
      have htl := hz heq
      rw [show b0 % 16 = k2 by omega] at htl
      exact absurd (by rw [show b0 = 192 + k2 by omega, Nat.add_comm 1 k2, List.take_succ_cons, htl]) hx
    · obtain ⟨_, _, htk⟩ := hok hw8 (by omega)
      have hW : varW m2 minW v = b0 % 16 := by
        rw [h.len_eq, if_neg (by omega), if_neg (by omega), if_neg (by omega), lenVar_eq] at hl
        omega
      rw [htk (by omega) hW, h.enc_eq, if_neg (by omega), if_neg (by omega), if_neg (by omega)]

end Full

/-- accepted by the readers of the three families and not the encoder's: over-long, a var tag below the minimum width
    (shorter than the encoder's), the var-level spelling of the last embedded maximum, and set bits 4-5 in a var tag -/
example : F.dec [64, 0] = some (63, 2) ∧ F.len 63 = 1 := by decide
example : F.dec [192] = some (4210749, 1) ∧ F.len 4210749 = 3 := by decide
example : F.dec [193, 5] = some (4210754, 2) ∧ F.len 4210754 = 3 := by decide
example : F.dec [194, 0, 0] = some (4210749, 3) ∧ F.len 4210749 = 3 ∧ F.enc 4210749 = [191, 255, 255] := by decide
example : F.dec [210, 1, 0] = some (4210750, 3) ∧ F.len 4210750 = 3 ∧ F.enc 4210750 = [194, 1, 0] := by decide

example : NZ.dec [64, 0] = some (64, 2) ∧ NZ.len 64 = 1 := by decide
example : NZ.dec [192] = some (4210750, 1) ∧ NZ.len 4210750 = 3 := by decide
example : NZ.dec [193, 5] = some (4210755, 2) ∧ NZ.len 4210755 = 3 := by decide
example : NZ.dec [194, 0, 0] = some (4210750, 3) ∧ NZ.len 4210750 = 3 ∧ NZ.enc 4210750 = [191, 255, 255] := by decide
example : NZ.dec [210, 1, 0] = some (4210751, 3) ∧ NZ.len 4210751 = 3 ∧ NZ.enc 4210751 = [194, 1, 0] := by decide

example : S16.dec [64, 0, 0] = some (16383, 3) ∧ S16.len 16383 = 2 := by decide
example : S16.dec [192] = some (1077952509, 1) ∧ S16.len 1077952509 = 4 := by decide
example : S16.dec [193, 5] = some (1077952514, 2) ∧ S16.len 1077952514 = 5 := by decide
example : S16.dec [195, 0, 0, 0] = some (1077952509, 4) ∧ S16.len 1077952509 = 4 ∧
    S16.enc 1077952509 = [191, 255, 255, 255] := by decide
example : S16.dec [212, 1, 0, 0, 0] = some (1077952510, 5) ∧ S16.len 1077952510 = 5 ∧
    S16.enc 1077952510 = [196, 1, 0, 0, 0] := by decide

end Split

end Varint
