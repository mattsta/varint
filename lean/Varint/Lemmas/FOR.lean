import Varint.Model.FOR
import Varint.Lemmas.Tagged
import Varint.Lemmas.List
/- Lemmas about the frame-of-reference model (Model/FOR.lean): minimum and maximum, the layout of an encoding, the round
   trips of the three readers on it, and what a successful decode of arbitrary bytes says about the count. -/
namespace Varint.FOR

theorem minL_le (xs : List Nat) : ∀ x ∈ xs, minL xs ≤ x := by
  cases xs with
  | nil => simp
  | cons a ys =>
    intro x hx
    simp only [minL]
    have := foldl_min_le ys a
    simp only [List.mem_cons] at hx
    rcases hx with rfl | hx
    · exact this.1
    · exact this.2 x hx

theorem le_maxL (xs : List Nat) : ∀ x ∈ xs, x ≤ maxL xs := by
  cases xs with
  | nil => simp
  | cons a ys =>
    intro x hx
    simp only [maxL]
    have := foldl_max_ge ys a
    simp only [List.mem_cons] at hx
    rcases hx with rfl | hx
    · exact this.1
    · exact this.2 x hx

theorem maxL_lt (xs : List Nat) (b : Nat) (hb : 0 < b) (hx : ∀ x ∈ xs, x < b) : maxL xs < b := by
  cases xs with
  | nil => simpa [maxL]
  | cons a ys =>
    simp only [maxL]
    exact foldl_max_lt ys a b (hx a (by simp)) (fun x h => hx x (by simp [h]))

theorem minL_le_maxL (xs : List Nat) (h : xs ≠ []) : minL xs ≤ maxL xs := by
  cases xs with
  | nil => exact absurd rfl h
  | cons a ys => exact Nat.le_trans (minL_le _ a (by simp)) (le_maxL _ a (by simp))

theorem minL_mem (xs : List Nat) (h : xs ≠ []) : minL xs ∈ xs := by
  cases xs with
  | nil => exact absurd rfl h
  | cons a ys =>
    rcases foldl_sel_mem min (fun a b => by omega) ys a with e | e
    · rw [minL, e]; exact List.mem_cons_self
    · exact List.mem_cons_of_mem _ e

theorem maxL_mem (xs : List Nat) (h : xs ≠ []) : maxL xs ∈ xs := by
  cases xs with
  | nil => exact absurd rfl h
  | cons a ys =>
    rcases foldl_sel_mem max (fun a b => by omega) ys a with e | e
    · rw [maxL, e]; exact List.mem_cons_self
    · exact List.mem_cons_of_mem _ e

theorem offsets_length (mn w : Nat) (xs : List Nat) : (offsets mn w xs).length = xs.length * w := by
  induction xs with
  | nil => simp [offsets]
  | cons x xs ih => simp [offsets, ih, Nat.add_mul]; omega

theorem readOffsets_offsets (mn w : Nat) (xs : List Nat)
    (hx : ∀ x ∈ xs, mn ≤ x ∧ x - mn < 256 ^ w ∧ x < 2 ^ 64) (rest : List Nat) :
    readOffsets xs.length mn w (offsets mn w xs ++ rest) = some xs := by
  induction xs with
  | nil => rfl
  | cons x xs ih =>
    obtain ⟨h1, h2, h3⟩ := hx x (by simp)
    rw [offsets, List.length_cons, List.append_assoc, readOffsets, takeExact_append _ _ (leBytes_length _ _)]
    simp only []
    rw [List.drop_left' (leBytes_length _ _), ih (fun y hy => hx y (by simp [hy]))]
    simp only [ofLe_leBytes_of_lt h2]
    have : (mn + (x - mn)) % 2 ^ 64 = x := by omega
    rw [this]

structure Good (xs : List Nat) : Prop where
  ne : xs ≠ []
  lt : ∀ x ∈ xs, x < 2 ^ 64
  len : xs.length < 2 ^ 64

theorem analyze_facts (xs : List Nat) (g : Good xs) :
    let m := analyze xs
    m.minValue < 2 ^ 64 ∧ m.count = xs.length ∧ 1 ≤ m.offsetWidth ∧ m.offsetWidth ≤ 8 ∧
    (∀ x ∈ xs, m.minValue ≤ x ∧ x - m.minValue < 256 ^ m.offsetWidth ∧ x < 2 ^ 64) := by
  intro m
  have hmx : maxL xs < 2 ^ 64 := maxL_lt xs _ (by decide) g.lt
  have hle := minL_le_maxL xs g.ne
  have hr : maxL xs - minL xs < 2 ^ 64 := by omega
  refine ⟨by show minL xs < 2 ^ 64; omega, rfl, extLen_pos _, extLen_le_8 hr, ?_⟩
  intro x hx
  have h1 := minL_le xs x hx
  have h2 := le_maxL xs x hx
  refine ⟨h1, ?_, g.lt x hx⟩
  show x - minL xs < 256 ^ extLen (maxL xs - minL xs)
  exact Nat.lt_of_le_of_lt (by omega) (lt_pow_extLen _)

theorem enc_eq (xs : List Nat) :
    enc xs = Tagged.enc (analyze xs).minValue ++ ((analyze xs).offsetWidth ::
      (Tagged.enc xs.length ++ offsets (analyze xs).minValue (analyze xs).offsetWidth xs)) := by
  simp [enc, analyze]

theorem enc_length (xs : List Nat) : (enc xs).length = (analyze xs).encodedSize := by
  rw [enc_eq]
  simp only [analyze, size, List.length_append, List.length_cons, Tagged.enc_length, offsets_length]
  omega

theorem readHdr_enc (xs : List Nat) (g : Good xs) (rest : List Nat) :
    readHdr (enc xs ++ rest) = some ⟨(analyze xs).minValue, (analyze xs).offsetWidth, xs.length,
      Tagged.len (analyze xs).minValue, Tagged.len xs.length⟩ := by
  obtain ⟨hmn, _, _, _, _⟩ := analyze_facts xs g
  rw [enc_eq, List.append_assoc]
  unfold readHdr
  rw [Tagged.get_enc _ hmn]
  simp only []
  rw [List.drop_left, List.cons_append, List.append_assoc]
  simp only []
  rw [Tagged.get_enc _ g.len]
  simp only [Tagged.enc_length]

theorem offsets_drop (mn w : Nat) (xs : List Nat) (i : Nat) :
    (offsets mn w xs).drop (i * w) = offsets mn w (xs.drop i) := by
  induction xs generalizing i with
  | nil => simp [offsets]
  | cons x xs ih =>
    cases i with
    | zero => simp
    | succ i =>
      rw [offsets, List.drop_succ_cons, ← ih i]
      have : (i + 1) * w = w + i * w := by rw [Nat.add_mul]; omega
      rw [this, ← List.drop_drop, List.drop_left' (leBytes_length _ _)]

theorem offsets_append (mn w : Nat) (a b : List Nat) : offsets mn w (a ++ b) = offsets mn w a ++ offsets mn w b := by
  induction a with
  | nil => simp [offsets]
  | cons x a ih => simp [offsets, ih]

/-- past the header and the first `i` offsets, the elements from `i` on are left -/
theorem drop_enc (xs : List Nat) (rest : List Nat) (i : Nat) (hi : i ≤ xs.length) :
    (enc xs ++ rest).drop (Tagged.len (analyze xs).minValue + 1 + Tagged.len xs.length + i * (analyze xs).offsetWidth)
      = offsets (analyze xs).minValue (analyze xs).offsetWidth (xs.drop i) ++ rest := by
  have e : enc xs ++ rest = (Tagged.enc (analyze xs).minValue ++ [(analyze xs).offsetWidth] ++ Tagged.enc xs.length) ++
      (offsets (analyze xs).minValue (analyze xs).offsetWidth xs ++ rest) := by simp [enc_eq]
  rw [e, ← List.drop_drop, List.drop_left' (by simp [Tagged.enc_length]; omega),
    List.drop_append_of_le_length (by rw [offsets_length]; exact Nat.mul_le_mul_right _ hi), offsets_drop]

theorem dec_enc (xs : List Nat) (g : Good xs) (cap : Nat) (hcap : xs.length ≤ cap) (rest : List Nat) :
    dec (enc xs ++ rest) cap = some (some xs) := by
  obtain ⟨hmn, _, hw1, hw8, hx⟩ := analyze_facts xs g
  have hd := drop_enc xs rest 0 (Nat.zero_le _)
  rw [Nat.zero_mul, Nat.add_zero, List.drop_zero] at hd
  unfold dec
  rw [readHdr_enc xs g rest]
  simp only []
  rw [if_neg (by omega), if_neg (by omega), hd, readOffsets_offsets _ _ xs hx]

/-- a capacity below the element count: `some none` is the C's `return 0` -/
theorem dec_enc_small (xs : List Nat) (g : Good xs) (cap : Nat) (hcap : cap < xs.length) (rest : List Nat) :
    dec (enc xs ++ rest) cap = some none := by
  unfold dec
  rw [readHdr_enc xs g rest]
  simp only []
  rw [if_pos hcap]

theorem getAt_enc (xs : List Nat) (g : Good xs) (i : Nat) (hi : i < xs.length) (rest : List Nat) :
    getAt (enc xs ++ rest) i = some (xs.getD i 0) := by
  obtain ⟨hmn, _, hw1, hw8, hx⟩ := analyze_facts xs g
  obtain ⟨h1, h2, h3⟩ := hx xs[i] (List.getElem_mem hi)
  unfold getAt
  rw [readHdr_enc xs g rest]
  simp only []
  rw [if_neg (by omega), drop_enc xs rest i (by omega), List.drop_eq_getElem_cons hi, offsets, List.append_assoc,
    takeExact_append _ _ (leBytes_length _ _)]
  simp only [ofLe_leBytes_of_lt h2]
  rw [List.getD_eq_getElem?_getD, List.getElem?_eq_getElem hi, Option.getD_some]
  congr 1
  omega

theorem decBlock_enc (xs : List Nat) (g : Good xs) (start blockSize : Nat) (rest : List Nat) :
    decBlock (enc xs ++ rest) start blockSize = some ((xs.drop start).take blockSize) := by
  obtain ⟨hmn, _, hw1, hw8, hx⟩ := analyze_facts xs g
  unfold decBlock
  rw [readHdr_enc xs g rest]
  simp only []
  by_cases c : start ≥ xs.length
  · rw [if_pos c, List.drop_of_length_le c]; simp
  · rw [if_neg c, if_neg (by omega), drop_enc xs rest start (by omega)]
    have hn : (if start + blockSize > xs.length then xs.length - start else blockSize)
        = ((xs.drop start).take blockSize).length := by
      rw [List.length_take, List.length_drop]
      split <;> omega
    rw [hn, ← List.take_append_drop blockSize (xs.drop start), offsets_append, List.append_assoc,
      List.take_append_drop]
    exact readOffsets_offsets _ _ _
      (fun y hy => hx y (List.mem_of_mem_drop (List.mem_of_mem_take hy))) _

theorem readOffsets_length (n mn w : Nat) (bs vs : List Nat) (h : readOffsets n mn w bs = some vs) :
    vs.length = n := by
  induction n generalizing bs vs with
  | zero => cases h; rfl
  | succ n ih =>
    unfold readOffsets at h
    split at h
    · cases h
    · split at h
      · cases h
      · rename_i hr
        cases h
        rw [List.length_cons, ih _ _ hr]

/-- a successful decode, whatever the bytes, returns as many values as the header declares, and that count passed the
    capacity test -/
theorem dec_length {bs : List Nat} {cap : Nat} {vs : List Nat} (h : dec bs cap = some (some vs)) :
    ∃ hd, readHdr bs = some hd ∧ vs.length = hd.count ∧ hd.count ≤ cap := by
  unfold dec at h
  split at h
  · cases h
  rename_i hd hh
  refine ⟨hd, hh, ?_⟩
  simp only [] at h
  split at h
  · cases h
  split at h
  · split at h
    · cases h
      exact ⟨by simp [*], by omega⟩
    · cases h
  split at h
  · cases h
  rename_i hr
  cases h
  exact ⟨readOffsets_length _ _ _ _ _ hr, by omega⟩

end Varint.FOR
