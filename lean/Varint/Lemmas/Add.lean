import Varint.Model.Tagged
import Varint.Model.External
import Varint.Lemmas.Bytes
/- int64 reinterpretation lemmas for the in-place add models. -/
namespace Varint

theorem toU64_lt (s : Int) : toU64 s < 2 ^ 64 := by
  unfold toU64
  omega

theorem toI64_eq (v : Nat) (hv : v < 2 ^ 64) : toI64 v = (v : Int) - 2 ^ 64 * ((v / 2 ^ 63 : Nat) : Int) := by
  unfold toI64
  rw [Nat.mod_eq_of_lt hv]
  split <;> omega

theorem toI64_toU64 (s : Int) (hlo : -(2 ^ 63 : Int) ≤ s) (hhi : s ≤ (2 ^ 63 : Int) - 1) :
    toI64 (toU64 s) = s := by
  have hlt := toU64_lt s
  rw [toI64_eq _ hlt]
  unfold toU64 at *
  omega

theorem toU64_toI64 (u : Nat) (hu : u < 2 ^ 64) : ((toI64 u) % (2 ^ 64 : Int)).toNat = u := by
  rw [toI64_eq u hu, Int.sub_mul_emod_self_left, Int.emod_eq_of_lt (Int.natCast_nonneg u) (by omega), Int.toNat_natCast]

/-- the wrapped sum `(int64_t)((uint64_t)a + (uint64_t)b)`, passed on as `uint64_t`, is the 64-bit pattern of `a + b` -/
theorem toI64_wrap (S : Int) : ((toI64 (S % (2 ^ 64 : Int)).toNat) % (2 ^ 64 : Int)).toNat = toU64 S :=
  toU64_toI64 _ (toU64_lt S)

theorem toNat_add_emod (a s : Int) :
    ((a + s) % (2 ^ 64 : Int)).toNat = ((a % (2 ^ 64 : Int)).toNat + (s % (2 ^ 64 : Int)).toNat) % 2 ^ 64 := by
  rw [Int.add_emod]
  obtain ⟨A, hA⟩ := Int.eq_ofNat_of_zero_le (Int.emod_nonneg a (by decide : (2 ^ 64 : Int) ≠ 0))
  obtain ⟨S, hS⟩ := Int.eq_ofNat_of_zero_le (Int.emod_nonneg s (by decide : (2 ^ 64 : Int) ≠ 0))
  rw [hA, hS]
  exact Int.toNat_natCast ((A + S) % 2 ^ 64)

end Varint
