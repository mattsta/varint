import Varint.Model.Tagged
import Varint.Lemmas.Bytes
/-
  Lemmas about the tagged model.
  The format has four shapes: one byte (≤ 240), two bytes (≤ 2287), three bytes (≤ 67823), and from there on a header
  byte `247 + w` followed by the `w = extLen v` big-endian bytes of the value. `shape` brings the model's formulation
  (32-bit halves, as in the C) into that form once; `Accepts` names the matching four shapes of what the reader takes, with
  `getN_of_accepts` (accepted ⇒ read, under any declared size that covers it) and the inversion `getN_cases` of all three
  outcomes (`getN_ok` is its accepting part). Every other fact is a case analysis over the four shapes.
-/
namespace Varint.Tagged

/-- the C splits `x` into 32-bit halves; together they are the big-endian bytes of `x` -/
theorem be_halves (j v : Nat) : beBytes j (v / 2 ^ 32) ++ beBytes 4 (v % 2 ^ 32) = beBytes (j + 4) v := by
  rw [beBytes_add j 4, show (2 : Nat) ^ 32 = 256 ^ 4 from rfl, beBytes_mod]

theorem three_le_extLen {v : Nat} (h : 67823 < v) : 3 ≤ extLen v :=
  le_extLen_of_pow_le (k := 2) (by omega)

/-- values above 67823: `w` payload bytes, `w = extLen v` (`len` and `enc` are total; beyond 2^64 they stay at 8) -/
theorem wide {v : Nat} (h : 67823 < v) :
    len v = 1 + min (extLen v) 8 ∧ enc v = (247 + min (extLen v) 8) :: beBytes (min (extLen v) 8) v := by
  unfold len enc
  simp only [if_neg (show ¬ v ≤ 240 by omega), if_neg (show ¬ v ≤ 2287 by omega), if_neg (show ¬ v ≤ 67823 by omega)]
  by_cases c0 : v / 2 ^ 32 = 0
  · simp only [if_pos c0, Nat.mod_eq_of_lt (show v < 2 ^ 32 by omega)]
    by_cases c : v ≤ 16777215
    · simp only [if_pos c, extLen_eq_of_lt (k := 2) (by omega) (show v < 256 ^ 3 by omega)]; exact ⟨rfl, rfl⟩
    · simp only [if_neg c, extLen_eq_of_lt (k := 3) (show 256 ^ 3 ≤ v by omega) (show v < 256 ^ 4 by omega)]
      exact ⟨rfl, rfl⟩
  simp only [if_neg c0]
  by_cases c1 : v / 2 ^ 32 ≤ 255
  · have e : v / 2 ^ 32 :: beBytes 4 (v % 2 ^ 32) = beBytes 5 v := by
      rw [← be_halves 1, beBytes_one, Nat.mod_eq_of_lt (show v / 2 ^ 32 < 256 by omega)]; rfl
    simp only [if_pos c1, extLen_eq_of_lt (k := 4) (show 256 ^ 4 ≤ v by omega) (show v < 256 ^ 5 by omega), e]
    exact ⟨rfl, rfl⟩
  simp only [if_neg c1]
  by_cases c2 : v / 2 ^ 32 ≤ 65535
  · simp only [if_pos c2, extLen_eq_of_lt (k := 5) (show 256 ^ 5 ≤ v by omega) (show v < 256 ^ 6 by omega), be_halves 2]
    exact ⟨rfl, rfl⟩
  simp only [if_neg c2]
  by_cases c3 : v / 2 ^ 32 ≤ 16777215
  · simp only [if_pos c3, extLen_eq_of_lt (k := 6) (show 256 ^ 6 ≤ v by omega) (show v < 256 ^ 7 by omega), be_halves 3]
    exact ⟨rfl, rfl⟩
  · simp only [if_neg c3, Nat.min_eq_right (le_extLen_of_pow_le (k := 7) (show 256 ^ 7 ≤ v by omega)), be_halves 4, and_self]

/-- the four shapes of `len` and `enc` -/
theorem shape (v : Nat) :
    (v ≤ 240 ∧ len v = 1 ∧ enc v = [v]) ∨
    (240 < v ∧ v ≤ 2287 ∧ len v = 2 ∧ enc v = [(v - 240) / 256 + 241, (v - 240) % 256]) ∨
    (2287 < v ∧ v ≤ 67823 ∧ len v = 3 ∧ enc v = [249, (v - 2288) / 256, (v - 2288) % 256]) ∨
    (67823 < v ∧ len v = 1 + min (extLen v) 8 ∧ enc v = (247 + min (extLen v) 8) :: beBytes (min (extLen v) 8) v) := by
  by_cases h1 : v ≤ 240
  · exact .inl ⟨h1, if_pos h1, if_pos h1⟩
  by_cases h2 : v ≤ 2287
  · exact .inr (.inl ⟨by omega, h2, by unfold len; rw [if_neg h1, if_pos h2], by unfold enc; rw [if_neg h1, if_pos h2]⟩)
  by_cases h3 : v ≤ 67823
  · exact .inr (.inr (.inl ⟨by omega, h3, by unfold len; rw [if_neg h1, if_neg h2, if_pos h3],
      by unfold enc; rw [if_neg h1, if_neg h2, if_pos h3]⟩))
  · exact .inr (.inr (.inr ⟨by omega, wide (by omega)⟩))

/-! ### the reader -/

/-- the byte strings the reader accepts, with the value and the length it reports for them -/
inductive Accepts : List Nat → Nat → Nat → Prop
  | one {b0 : Nat} (rest : List Nat) (h : b0 ≤ 240) : Accepts (b0 :: rest) b0 1
  | two {b0 : Nat} (b1 : Nat) (rest : List Nat) (h : 240 < b0) (h' : b0 ≤ 248) :
      Accepts (b0 :: b1 :: rest) ((b0 - 241) * 256 + b1 + 240) 2
  | three (b1 b2 : Nat) (rest : List Nat) : Accepts (249 :: b1 :: b2 :: rest) (2288 + ofBe [b1, b2]) 3
  | wide {k : Nat} (p rest : List Nat) (hp : p.length = k) (h3 : 3 ≤ k) (h8 : k ≤ 8) :
      Accepts ((247 + k) :: (p ++ rest)) (ofBe p) (k + 1)

/-- what is accepted is read, under every declared size that covers it -/
theorem getN_of_accepts {bs : List Nat} {v l : Nat} (h : Accepts bs v l) {n : Int} (hn : (l : Int) ≤ n) :
    getN bs n = .ok v l := by
  cases h with
  | one rest h => simp only [getN, if_neg (show ¬ n < 1 by omega), if_pos h]
  | two b1 rest h h' =>
    simp only [getN, if_neg (show ¬ n < 1 by omega), if_neg (Nat.not_le_of_lt h), if_pos h', if_neg (show ¬ n < 2 by omega)]
  | three b1 b2 rest =>
    simp only [getN, if_neg (show ¬ n < 1 by omega), show ¬ (249 ≤ 240) by omega, show ¬ (249 ≤ 248) by omega, if_false,
      if_neg (show ¬ n < ((249 : Nat) : Int) - 246 by omega), show takeExact (249 - 247) (b1 :: b2 :: rest) = some [b1, b2] from
        takeExact_append [b1, b2] rest rfl, if_true]
  | @wide k p rest hp h3 h8 =>
    simp only [getN, if_neg (show ¬ n < 1 by omega), if_neg (show ¬ 247 + k ≤ 240 by omega),
      if_neg (show ¬ 247 + k ≤ 248 by omega), if_neg (show ¬ n < ((247 + k : Nat) : Int) - 246 by omega),
      show 247 + k - 247 = k by omega, takeExact_append p rest hp, if_neg (show ¬ 247 + k = 249 by omega),
      if_pos (show 247 + k ≤ 255 by omega), show 247 + k - 246 = k + 1 by omega]

/-- the reader inverted: what it accepted behind a result, the cut that makes it report 0 (declared size below
    the announced length `getLen b0`, or a first byte that is no byte), the missing bytes behind a fault -/
theorem getN_cases (bs : List Nat) (n : Int) :
    match getN bs n with
    | .ok v l => (l : Int) ≤ n ∧ Accepts bs v l
    | .short => n < 1 ∨ ∃ b0 rest, bs = b0 :: rest ∧ (n < (getLen b0 : Int) ∨ 255 < b0)
    | .fault => 1 ≤ n ∧ (bs = [] ∨ ∃ b0 rest, bs = b0 :: rest ∧ (getLen b0 : Int) ≤ n ∧ bs.length < getLen b0) := by
  unfold getN
  by_cases h1 : n < 1
  · rw [if_pos h1]; exact Or.inl h1
  rw [if_neg h1]
  match bs with
  | [] => exact ⟨by omega, Or.inl rfl⟩
  | b0 :: rest =>
    simp only []
    by_cases c1 : b0 ≤ 240
    · rw [if_pos c1]; exact ⟨by omega, .one rest c1⟩
    rw [if_neg c1]
    by_cases c2 : b0 ≤ 248
    · have hl : getLen b0 = 2 := by rw [getLen, if_neg c1, if_pos c2]
      rw [if_pos c2]
      by_cases c3 : n < 2
      · rw [if_pos c3]; exact .inr ⟨_, _, rfl, .inl (by rw [hl]; exact c3)⟩
      rw [if_neg c3]
      match rest with
      | [] => exact ⟨by omega, .inr ⟨_, _, rfl, by rw [hl]; omega, by rw [hl]; exact Nat.lt_succ_self 1⟩⟩
      | b1 :: rest => exact ⟨by omega, .two b1 rest (by omega) c2⟩
    have hl : getLen b0 = b0 - 246 := by rw [getLen, if_neg c1, if_neg c2]
    rw [if_neg c2]
    by_cases c3 : n < (b0 : Int) - 246
    · rw [if_pos c3]; exact .inr ⟨_, _, rfl, .inl (by rw [hl]; omega)⟩
    rw [if_neg c3]
    -- `by_cases` would evaluate the stuck `takeExact (b0 - 247) rest` and run out of stack on the literal
    cases Nat.lt_or_ge rest.length (b0 - 247) with
    | inl hk =>
      rw [takeExact, if_neg (Nat.not_le_of_lt hk)]
      exact ⟨by omega, .inr ⟨_, _, rfl, by rw [hl]; omega, by rw [hl, List.length_cons]; omega⟩⟩
    | inr hk =>
      rw [takeExact, if_pos hk]
      simp only []
      by_cases c4 : b0 = 249
      · rw [if_pos c4]
        subst c4
        match rest, hk with
        | b1 :: b2 :: rest, _ => exact ⟨by omega, .three b1 b2 rest⟩
      rw [if_neg c4]
      by_cases c5 : b0 ≤ 255
      · rw [if_pos c5]
        have := Accepts.wide (rest.take (b0 - 247)) (rest.drop (b0 - 247)) (List.length_take_of_le hk) (by omega) (by omega)
        rw [List.take_append_drop, show 247 + (b0 - 247) = b0 by omega, show b0 - 247 + 1 = b0 - 246 by omega] at this
        exact ⟨by omega, this⟩
      · rw [if_neg c5]; exact .inr ⟨_, _, rfl, .inr (by omega)⟩

/-- what the reader accepted, read back from its result -/
theorem getN_ok {bs : List Nat} {n : Int} {v l : Nat} (h : getN bs n = .ok v l) : (l : Int) ≤ n ∧ Accepts bs v l := by
  have := getN_cases bs n
  rw [h] at this
  exact this

/-! ### consequences -/

theorem enc_length (v : Nat) : (enc v).length = len v := by
  rcases shape v with ⟨-, hl, he⟩ | ⟨-, -, hl, he⟩ | ⟨-, -, hl, he⟩ | ⟨-, hl, he⟩ <;> rw [he, hl]
  · rfl
  · rfl
  · rfl
  · rw [List.length_cons, beBytes_length, Nat.add_comm]

theorem len_bounds (v : Nat) : 1 ≤ len v ∧ len v ≤ 9 := by
  rcases shape v with ⟨-, hl, -⟩ | ⟨-, -, hl, -⟩ | ⟨-, -, hl, -⟩ | ⟨-, hl, -⟩ <;> omega

theorem get_enc (v : Nat) (hv : v < 2 ^ 64) (rest : List Nat) :
    get (enc v ++ rest) = .ok v (enc v).length := by
  rw [enc_length, get]
  rcases shape v with ⟨h, hl, he⟩ | ⟨h1, h2, hl, he⟩ | ⟨h1, h2, hl, he⟩ | ⟨h, hl, he⟩ <;> rw [he, hl]
  · exact getN_of_accepts (.one rest h) (by omega)
  · have := getN_of_accepts (n := 9) (.two ((v - 240) % 256) rest (b0 := (v - 240) / 256 + 241) (by omega) (by omega)) (by omega)
    rwa [show ((v - 240) / 256 + 241 - 241) * 256 + (v - 240) % 256 + 240 = v by omega] at this
  · have := getN_of_accepts (n := 9) (.three ((v - 2288) / 256) ((v - 2288) % 256) rest) (by omega)
    rwa [show 2288 + ofBe [(v - 2288) / 256, (v - 2288) % 256] = v by simp only [ofBe, List.length]; omega] at this
  · have h8 := extLen_le_8 hv
    have h3 := three_le_extLen h
    rw [Nat.min_eq_left h8, Nat.add_comm 1]
    have := getN_of_accepts (n := 9) (.wide (beBytes (extLen v) v) rest (beBytes_length _ _) h3 h8) (by omega)
    rwa [ofBe_beBytes_of_lt (lt_pow_extLen v)] at this

theorem len_mono {a b : Nat} (h : a ≤ b) : len a ≤ len b := by
  have := extLen_mono h
  rcases shape a with ⟨_, hla, -⟩ | ⟨_, _, hla, -⟩ | ⟨_, _, hla, -⟩ | ⟨_, hla, -⟩ <;>
    rcases shape b with ⟨_, hlb, -⟩ | ⟨_, _, hlb, -⟩ | ⟨_, _, hlb, -⟩ | ⟨hb, hlb, -⟩ <;>
    try omega
  all_goals
    have := three_le_extLen hb
    omega

theorem len_le {v k : Nat} (h3 : 3 ≤ k) (h : v < 256 ^ k) : len v ≤ k + 1 := by
  have := extLen_le_of_lt (by omega) h
  rcases shape v with ⟨_, hl, -⟩ | ⟨_, _, hl, -⟩ | ⟨_, _, hl, -⟩ | ⟨_, hl, -⟩ <;> omega

theorem enc_ne_nil (v : Nat) : enc v ≠ [] := by
  intro h
  have := enc_length v
  have := (len_bounds v).1
  rw [h] at *
  simp at *
  omega

theorem getLen_head (v : Nat) (hv : v < 2 ^ 64) : getLen ((enc v).headD 0) = len v := by
  unfold getLen
  rcases shape v with ⟨h, hl, he⟩ | ⟨h1, h2, hl, he⟩ | ⟨h1, h2, hl, he⟩ | ⟨h, hl, he⟩ <;>
    rw [he, hl, List.headD_cons]
  · rw [if_pos h]
  · rw [if_neg (by omega), if_pos (by omega)]
  · rfl
  · have := extLen_le_8 hv
    have := three_le_extLen h
    rw [if_neg (by omega), if_neg (by omega)]
    omega

theorem lenQuick_eq (v : Nat) : lenQuick v = len v := by
  unfold lenQuick
  rcases shape v with ⟨h, hl, -⟩ | ⟨h1, h2, hl, -⟩ | ⟨h1, h2, hl, -⟩ | ⟨h, hl, -⟩
  · rw [if_pos h, hl]
  · rw [if_neg (by omega), if_pos h2, hl]
  · rw [if_neg (by omega), if_neg (by omega), if_pos h2, hl]
  · rw [if_neg (by omega), if_neg (by omega), if_neg (by omega)]
    split
    · rw [hl, extLen_eq_of_lt (k := 2) (by omega) (show v < 256 ^ 3 by omega)]; rfl
    · rfl

theorem enc_lt (v : Nat) : ∀ b ∈ enc v, b < 256 := by
  intro b hb
  rcases shape v with ⟨h, -, he⟩ | ⟨h1, h2, -, he⟩ | ⟨h1, h2, -, he⟩ | ⟨h, -, he⟩ <;>
    simp only [he, List.mem_cons, List.not_mem_nil, or_false] at hb
  · omega
  · omega
  · omega
  · rcases hb with rfl | hb
    · omega
    · exact beBytes_lt _ _ b hb

/-! ### fixed width -/

theorem encFixed_wide (v : Nat) {k : Nat} (h3 : 3 ≤ k) (h8 : k ≤ 8) : encFixed v (k + 1) = (247 + k) :: beBytes k v := by
  have e : (2 : Nat) ^ 32 = 256 ^ 4 := rfl
  have hw {j : Nat} (hj : j ≤ 4) : beBytes j (v / 2 ^ 32 % 2 ^ 32) ++ beBytes 4 (v % 2 ^ 32) = beBytes (j + 4) v := by
    rw [← be_halves j v, e, beBytes_mod_pow hj]
  have hk : k = 3 ∨ k = 4 ∨ k = 5 ∨ k = 6 ∨ k = 7 ∨ k = 8 := by omega
  rcases hk with rfl | rfl | rfl | rfl | rfl | rfl
  · exact congrArg (250 :: ·) (by rw [e]; exact beBytes_mod_pow (by omega) v)
  · exact congrArg (251 :: ·) (by rw [e]; exact beBytes_mod 4 v)
  · exact congrArg (252 :: ·) (by rw [← hw (j := 1) (by omega), beBytes_one]; rfl)
  · exact congrArg (253 :: ·) (hw (j := 2) (by omega))
  · exact congrArg (254 :: ·) (hw (j := 3) (by omega))
  · exact congrArg (255 :: ·) (hw (j := 4) (by omega))

/-- the minimal fixed width is the variable-width encoding -/
theorem encFixed_len (v : Nat) (hv : v < 2 ^ 64) : encFixed v (len v) = enc v := by
  rcases shape v with ⟨h, hl, he⟩ | ⟨h1, h2, hl, he⟩ | ⟨h1, h2, hl, he⟩ | ⟨h, hl, he⟩ <;> rw [he, hl]
  · exact congrArg (· :: []) (Nat.mod_eq_of_lt (by omega))
  · show [((v + 2 ^ 64 - 240) % 2 ^ 32 / 256 + 241) % 256, (v + 2 ^ 64 - 240) % 2 ^ 32 % 256] = _
    rw [show (v + 2 ^ 64 - 240) % 2 ^ 32 = v - 240 by omega, Nat.mod_eq_of_lt (by omega)]
  · show [249, (v + 2 ^ 64 - 2288) % 2 ^ 32 / 256 % 256, (v + 2 ^ 64 - 2288) % 2 ^ 32 % 256] = _
    rw [show (v + 2 ^ 64 - 2288) % 2 ^ 32 = v - 2288 by omega, Nat.mod_eq_of_lt (by omega)]
  · rw [Nat.min_eq_left (extLen_le_8 hv), Nat.add_comm 1]
    exact encFixed_wide v (three_le_extLen h) (extLen_le_8 hv)

/-- a value that fits the length class `w` fits the `w - 1` payload bytes -/
theorem lt_of_len_le {v k : Nat} (hv : v < 2 ^ 64) (h3 : 3 ≤ k) (hl : len v ≤ k + 1) : v < 256 ^ k := by
  by_cases h : 67823 < v
  · rw [(wide h).1, Nat.min_eq_left (extLen_le_8 hv)] at hl
    exact lt_pow_of_extLen_le (by omega)
  · exact Nat.lt_of_lt_of_le (show v < 256 ^ 3 by omega) (Nat.pow_le_pow_right (by omega) h3)

theorem len_le_iff {v k : Nat} (hv : v < 2 ^ 64) (h3 : 3 ≤ k) : len v ≤ k + 1 ↔ v < 256 ^ k :=
  ⟨lt_of_len_le hv h3, len_le h3⟩

/-- width 4..9 ≥ len v: padded big-endian payload decodes to v -/
theorem get_encFixed_wide (v w : Nat) (hv : v < 2 ^ 64) (h4 : 4 ≤ w) (h9 : w ≤ 9) (hl : len v ≤ w)
    (rest : List Nat) : get (encFixed v w ++ rest) = .ok v w := by
  obtain ⟨k, rfl⟩ : ∃ k, w = k + 1 := ⟨w - 1, by omega⟩
  rw [encFixed_wide v (by omega) (by omega)]
  have := getN_of_accepts (n := 9) (.wide (beBytes k v) rest (beBytes_length _ _) (by omega) (by omega)) (by omega)
  rwa [ofBe_beBytes_of_lt (lt_of_len_le hv (by omega) hl)] at this

/-- the quick macro agrees with the function wherever the function succeeds -/
theorem getQuick_of_get (bs : List Nat) (v l : Nat) (h : get bs = .ok v l) : getQuick bs = some v := by
  obtain ⟨-, ha⟩ := getN_ok h
  cases ha with
  | one rest h1 => simp only [getQuick, if_pos h1]
  | two b1 rest h1 h2 => simp only [getQuick, if_neg (Nat.not_le_of_lt h1), if_pos h2]
  | three b1 b2 rest =>
    simp [getQuick, ofBe]
    omega
  | @wide k p rest hp h3 h8 =>
    simp only [getQuick, if_neg (show ¬ 247 + k ≤ 240 by omega), if_neg (show ¬ 247 + k ≤ 248 by omega),
      if_neg (show ¬ 247 + k = 249 by omega), h]

theorem getQuick_enc (v : Nat) (hv : v < 2 ^ 64) (rest : List Nat) :
    getQuick (enc v ++ rest) = some v :=
  getQuick_of_get _ _ _ (get_enc v hv rest)

end Varint.Tagged
