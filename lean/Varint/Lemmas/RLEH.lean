import Varint.Lemmas.RLE
/- The run-length model beyond the plain round trip: the count header, random access, the capacity bound on arbitrary
   bytes, and maximality of the runs. -/
namespace Varint.RLE

theorem decHAux_enc (rs : List (Nat × Nat)) (fuel d cap : Nat) (hf : rs.length < fuel)
    (hcap : d + total rs ≤ cap)
    (hpos : ∀ r ∈ rs, 1 ≤ r.1) (hlt : ∀ r ∈ rs, r.1 < 2 ^ 64 ∧ r.2 < 2 ^ 64) (rest : List Nat) :
    decHAux fuel d (d + total rs) cap (encRuns rs ++ rest) = some (expand rs) := by
  induction rs generalizing fuel d with
  | nil =>
    obtain ⟨f, rfl⟩ : ∃ f, fuel = f + 1 := ⟨fuel - 1, by simp at hf; omega⟩
    simp [decHAux, total, expand]
  | cons r rs ih =>
    obtain ⟨l, v⟩ := r
    obtain ⟨f, rfl⟩ : ∃ f, fuel = f + 1 := ⟨fuel - 1, by simp at hf; omega⟩
    have hl1 : 1 ≤ l := hpos (l, v) (by simp)
    have hb := hlt (l, v) (by simp)
    rw [total_cons] at hcap
    have hstop : ¬ (d ≥ d + total ((l, v) :: rs) ∨ d ≥ cap) := by rw [total_cons]; omega
    rw [decHAux, if_neg hstop, getRun_encRuns l v rs rest hb.1 hb.2]
    simp only []
    have hw : min l (cap - d) = l := by omega
    have ht : d + total ((l, v) :: rs) = (d + l) + total rs := by rw [total_cons]; omega
    rw [hw, ht, ih f (d + l) (by simp at hf; omega) (by omega)
      (fun r hr => hpos r (by simp [hr])) (fun r hr => hlt r (by simp [hr]))]
    simp [expand_cons]

theorem decH_encH (xs : List Nat) (hx : ∀ x ∈ xs, x < 2 ^ 64) (hn : xs.length < 2 ^ 64) (cap : Nat)
    (hcap : xs.length ≤ cap) (rest : List Nat) :
    decH (encH xs ++ rest) cap = some (some xs) := by
  unfold decH encH
  rw [List.append_assoc, Tagged.get_enc xs.length hn]
  simp only []
  rw [if_neg (by omega), List.drop_left]
  unfold enc
  have hlen := runs_length_le xs
  have h := decHAux_enc (runs xs) ((Tagged.enc xs.length ++ (encRuns (runs xs) ++ rest)).length + xs.length + 2)
    0 cap (by omega) (by rw [total_runs]; omega) (runs_pos xs) (runs_lt xs hx hn) rest
  rw [total_runs, expand_runs, Nat.zero_add] at h
  rw [h]
  rfl

theorem decH_encH_small (xs : List Nat) (hn : xs.length < 2 ^ 64) (cap : Nat)
    (hcap : cap < xs.length) (rest : List Nat) :
    decH (encH xs ++ rest) cap = some none := by
  unfold decH encH
  rw [List.append_assoc, Tagged.get_enc xs.length hn]
  simp only []
  rw [if_pos (by omega)]

theorem getD_replicate_append (l v : Nat) (ys : List Nat) (k : Nat) :
    (List.replicate l v ++ ys).getD k 0 = if k < l then v else ys.getD (k - l) 0 := by
  simp only [List.getD_eq_getElem?_getD]
  by_cases hk : k < l
  · rw [if_pos hk, List.getElem?_append_left (by simpa using hk), List.getElem?_replicate, if_pos hk]
    rfl
  · rw [if_neg hk, List.getElem?_append_right (by simpa using hk), List.length_replicate]

theorem getAtAux_enc (rs : List (Nat × Nat)) (fuel pos i : Nat) (hp : pos ≤ i) (hi : i < pos + total rs)
    (hf : i + 1 ≤ fuel + pos)
    (hpos : ∀ r ∈ rs, 1 ≤ r.1) (hlt : ∀ r ∈ rs, r.1 < 2 ^ 64 ∧ r.2 < 2 ^ 64) (rest : List Nat) :
    getAtAux fuel pos i (encRuns rs ++ rest) = some ((expand rs).getD (i - pos) 0) := by
  induction rs generalizing fuel pos with
  | nil => simp [total] at hi; omega
  | cons r rs ih =>
    obtain ⟨l, v⟩ := r
    obtain ⟨f, rfl⟩ : ∃ f, fuel = f + 1 := ⟨fuel - 1, by omega⟩
    have hl1 : 1 ≤ l := hpos (l, v) (by simp)
    have hb := hlt (l, v) (by simp)
    rw [total_cons] at hi
    rw [getAtAux, getRun_encRuns l v rs rest hb.1 hb.2]
    simp only []
    rw [if_neg (by omega), expand_cons, getD_replicate_append]
    by_cases hgt : pos + l > i
    · rw [if_pos hgt, if_pos (by omega)]
    · rw [if_neg hgt, if_neg (by omega),
        ih f (pos + l) (by omega) (by omega) (by omega)
          (fun r hr => hpos r (by simp [hr])) (fun r hr => hlt r (by simp [hr]))]
      have e : i - (pos + l) = i - pos - l := by omega
      rw [e]

theorem getAt_enc (xs : List Nat) (hx : ∀ x ∈ xs, x < 2 ^ 64) (hn : xs.length < 2 ^ 64) (i : Nat) (hi : i < xs.length)
    (rest : List Nat) : getAt (enc xs ++ rest) i = some (xs.getD i 0) := by
  unfold getAt enc
  have h := getAtAux_enc (runs xs) (i + 2) 0 i (by omega) (by rw [total_runs]; omega) (by omega)
    (runs_pos xs) (runs_lt xs hx hn) rest
  rw [expand_runs, Nat.sub_zero] at h
  exact h

theorem decHAux_length_le (fuel d total cap : Nat) (bs vs : List Nat) (hd : d ≤ cap)
    (h : decHAux fuel d total cap bs = some vs) : d + vs.length ≤ cap := by
  induction fuel generalizing d bs vs with
  | zero => cases h
  | succ f ih =>
    rw [decHAux] at h
    split at h
    · cases h
      exact hd
    split at h
    · cases h
    · -- a run, clipped to the room left
      obtain ⟨vs', hr, rfl⟩ := Option.map_eq_some_iff.mp h
      have := ih _ _ vs' (by omega) hr
      rw [List.length_append, List.length_replicate]
      omega

theorem decH_length_le_cap (bs : List Nat) (cap : Nat) (vs : List Nat)
    (h : decH bs cap = some (some vs)) : vs.length ≤ cap := by
  unfold decH at h
  split at h
  · split at h
    · cases h
    · obtain ⟨vs', hr, hv⟩ := Option.map_eq_some_iff.mp h
      cases hv
      have := decHAux_length_le _ 0 _ cap _ vs (Nat.zero_le _) hr
      omega
  · cases h

theorem runCount_eq (xs : List Nat) : runCount xs = (runs xs).length := rfl

/-- consecutive runs carry different values -/
def AdjNe : List (Nat × Nat) → Prop
  | [] => True
  | [_] => True
  | a :: b :: rs => a.2 ≠ b.2 ∧ AdjNe (b :: rs)

theorem runs_adjNe (xs : List Nat) : AdjNe (runs xs) := by
  induction xs with
  | nil => simp [runs, AdjNe]
  | cons x xs ih =>
    simp only [runs]
    cases h : runs xs with
    | nil => simp [AdjNe]
    | cons r rest =>
      obtain ⟨l, v⟩ := r
      rw [h] at ih
      simp only []
      split
      · cases rest with
        | nil => simp [AdjNe]
        | cons b rest' =>
          simp only [AdjNe] at ih ⊢
          exact ih
      · rename_i hv
        simp only [AdjNe]
        exact ⟨fun e => hv e.symm, ih⟩

theorem adjNe_getElem (rs : List (Nat × Nat)) (h : AdjNe rs) (k : Nat) (hk : k + 1 < rs.length) :
    (rs[k]'(by omega)).2 ≠ (rs[k + 1]'hk).2 := by
  induction rs generalizing k with
  | nil => simp at hk
  | cons a rs ih =>
    cases rs with
    | nil => simp at hk
    | cons b rs' =>
      simp only [AdjNe] at h
      cases k with
      | zero => simpa using h.1
      | succ k =>
        simp only [List.getElem_cons_succ]
        exact ih h.2 k (by simp at hk ⊢; omega)

/-- index form of maximality: runs `k` and `k+1` never carry the same value -/
theorem runs_adjacent_ne (xs : List Nat) (k : Nat) (hk : k + 1 < (runs xs).length) :
    ((runs xs)[k]'(by omega)).2 ≠ ((runs xs)[k + 1]'hk).2 :=
  adjNe_getElem (runs xs) (runs_adjNe xs) k hk

theorem runs_eq_nil (xs : List Nat) : runs xs = [] ↔ xs = [] := by
  constructor
  · intro h
    have := expand_runs xs
    rw [h] at this
    exact this.symm
  · intro h; subst h; rfl

theorem runCount_eq_zero (xs : List Nat) : runCount xs = 0 ↔ xs = [] := by
  rw [runCount_eq, List.length_eq_zero_iff, runs_eq_nil]

theorem runCount_le (xs : List Nat) : runCount xs ≤ xs.length := runs_length_le xs

/-- the run decomposition is the ONLY one with positive lengths and distinct neighbours -/
theorem runs_unique (rs : List (Nat × Nat)) (hpos : ∀ r ∈ rs, 1 ≤ r.1) (hadj : AdjNe rs) :
    runs (expand rs) = rs := by
  induction rs with
  | nil => rfl
  | cons a rs ih =>
    obtain ⟨l, v⟩ := a
    have hl1 : 1 ≤ l := hpos (l, v) (by simp)
    have ih' := ih (fun r hr => hpos r (by simp [hr]))
      (by cases rs with
          | nil => simp [AdjNe]
          | cons b rs' => simp only [AdjNe] at hadj; exact hadj.2)
    rw [expand_cons]
    -- peel the `l` copies of `v` one at a time
    have key : ∀ m, runs (List.replicate (m + 1) v ++ expand rs) = (m + 1, v) :: rs := by
      intro m
      induction m with
      | zero =>
        simp only [Nat.zero_add, List.replicate_succ, List.replicate_zero, List.cons_append,
          List.nil_append, runs]
        rw [ih']
        cases rs with
        | nil => rfl
        | cons b rs' =>
          obtain ⟨l2, v2⟩ := b
          simp only [AdjNe] at hadj
          simp only []
          rw [if_neg (fun e => hadj.1 e.symm)]
      | succ m ihm =>
        rw [List.replicate_succ, List.cons_append]
        simp only [runs]
        rw [ihm]
        simp
    obtain ⟨m, rfl⟩ : ∃ m, l = m + 1 := ⟨l - 1, by omega⟩
    exact key m

end Varint.RLE
