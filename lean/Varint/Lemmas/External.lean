import Varint.Model.External
import Varint.Lemmas.Bytes
/- Lemmas about the external (little/big endian) models and the signed-storage helpers. -/
namespace Varint

theorem xor_two_pow_of_lt {a k : Nat} (h : a < 2 ^ k) : a ^^^ 2 ^ k = a + 2 ^ k := by
  have hpos : 0 < 2 ^ k := Nat.pow_pos (by omega)
  have hm : (a ^^^ 2 ^ k) % 2 ^ k = a := by
    rw [Nat.xor_mod_two_pow, Nat.mod_self, Nat.xor_zero, Nat.mod_eq_of_lt h]
  have hd : (a ^^^ 2 ^ k) / 2 ^ k = 1 := by
    rw [Nat.xor_div_two_pow, Nat.div_eq_of_lt h, Nat.div_self hpos, Nat.zero_xor]
  have := Nat.div_add_mod (a ^^^ 2 ^ k) (2 ^ k)
  rw [hm, hd] at this
  omega

/-- generic sign relocation into bit `k`: every |s| < 2^k is restored and the field fits k+1 bits -/
theorem sign_restore_prepare (k : Nat) (s : Int) (hlo : -(2 ^ k : Int) < s) (hhi : s < (2 ^ k : Int)) :
    let f := if s < 0 then (-s).toNat ^^^ 2 ^ k else s.toNat
    (if f / 2 ^ k % 2 = 1 then -((f ^^^ 2 ^ k : Nat) : Int) else (f : Int)) = s ∧ f < 2 ^ (k + 1) := by
  intro f
  have hpos : 0 < 2 ^ k := Nat.pow_pos (by omega)
  have hcast : ((2 ^ k : Nat) : Int) = (2 : Int) ^ k := by simp
  rw [Nat.pow_succ]
  by_cases hs : s < 0
  · -- the magnitude is below bit `k`: setting the bit adds `2 ^ k`, and xor-ing it once more takes it off again
    have hm : (-s).toNat < 2 ^ k := by omega
    have hf : f = (-s).toNat ^^^ 2 ^ k := if_pos hs
    have hadd := xor_two_pow_of_lt hm
    have hbit : f / 2 ^ k % 2 = 1 := by rw [hf, hadd, Nat.add_div_right _ hpos, Nat.div_eq_of_lt hm]
    have hback : f ^^^ 2 ^ k = (-s).toNat := by rw [hf, Nat.xor_assoc, Nat.xor_self, Nat.xor_zero]
    rw [if_pos hbit, hback]
    constructor <;> omega
  · have hm : s.toNat < 2 ^ k := by omega
    have hf : f = s.toNat := if_neg hs
    have hbit : ¬ (f / 2 ^ k % 2 = 1) := by rw [hf, Nat.div_eq_of_lt hm]; simp
    rw [if_neg hbit]
    constructor <;> omega

/-- reading back `w` bytes that hold `v`, in either byte order -/
theorem read_bytes {val : List Nat → Nat} {bytes : Nat → Nat → List Nat}
    (hlen : ∀ k v, (bytes k v).length = k) (hval : ∀ {k v}, v < 256 ^ k → val (bytes k v) = v)
    {v w : Nat} (h : v < 256 ^ w) (rest : List Nat) : (takeExact w (bytes w v ++ rest)).map val = some v := by
  rw [takeExact_append _ _ (hlen w v), Option.map_some, hval h]

/-- a memory that holds the bytes `l` at the indices `0 … w-1`: those cells are bytes, and reading them in order gives `l` -/
theorem mem_eq_bytes {mem : Nat → Nat} {l : List Nat} {w : Nat} (hl : l.length = w)
    (hm : ∀ i, i < w → mem i = l.getD i 0) (hlt : ∀ b ∈ l, b < 256) :
    (∀ i, i < w → mem i < 256) ∧ (List.range w).map mem = l := by
  subst hl
  have hget : ∀ i (hi : i < l.length), mem i = l[i] := fun i hi => by
    rw [hm i hi, List.getD_eq_getElem?_getD, List.getElem?_eq_getElem hi, Option.getD_some]
  refine ⟨fun i hi => hget i hi ▸ hlt _ (List.getElem_mem hi), List.ext_getElem (by simp) ?_⟩
  intro i h1 h2
  rw [List.getElem_map, List.getElem_range, hget i h2]

namespace External

theorem enc_length (v : Nat) : (enc v).length = extLen v := by simp [enc]

theorem len_bounds (v : Nat) (hv : v < 2 ^ 64) : 1 ≤ extLen v ∧ extLen v ≤ 8 :=
  ⟨extLen_pos v, extLen_le_8 hv⟩

theorem enc_lt (v : Nat) : ∀ b ∈ enc v, b < 256 := leBytes_lt _ _

theorem get_encFixed (v w : Nat) (h : extLen v ≤ w) (rest : List Nat) :
    get (encFixed v w ++ rest) w = some v :=
  read_bytes leBytes_length ofLe_leBytes_of_lt (lt_pow_of_extLen_le h) rest

theorem get_enc (v : Nat) (rest : List Nat) : get (enc v ++ rest) (extLen v) = some v :=
  get_encFixed v (extLen v) (Nat.le_refl _) rest

theorem encFixed_extLen (v : Nat) : encFixed v (extLen v) = enc v := rfl

/-- sign relocation: every value representable in sign-magnitude in `8w` bits is restored -/
theorem restore_prepare (w : Nat) (hw : 1 ≤ w) (s : Int)
    (hlo : -(2 ^ (8 * w - 1) : Int) < s) (hhi : s < (2 ^ (8 * w - 1) : Int)) :
    restoreSigned w (prepareSigned w s) = s ∧ prepareSigned w s < 256 ^ w := by
  have h := sign_restore_prepare (8 * w - 1) s hlo hhi
  rw [show 8 * w - 1 + 1 = 8 * w by omega, Nat.pow_mul] at h
  exact h

end External

namespace ExternalBE

theorem enc_length (v : Nat) : (enc v).length = extLen v := by simp [enc]

theorem enc_lt (v : Nat) : ∀ b ∈ enc v, b < 256 := beBytes_lt _ _

theorem get_encFixed (v w : Nat) (h : extLen v ≤ w) (rest : List Nat) :
    get (encFixed v w ++ rest) w = some v :=
  read_bytes beBytes_length ofBe_beBytes_of_lt (lt_pow_of_extLen_le h) rest

theorem get_enc (v : Nat) (rest : List Nat) : get (enc v ++ rest) (extLen v) = some v :=
  get_encFixed v (extLen v) (Nat.le_refl _) rest

end ExternalBE
end Varint
