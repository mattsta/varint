import Varint.Model.Delta
import Varint.Lemmas.Bytes
/- Lemmas for the delta codec of Model/Delta.lean: zig-zag (`unzz (zz x) = x`, range), the width-prefixed
   field, `decU (encU xs ++ rest)` / `decS (encS xs ++ rest)` for 64-bit values, and length ≤ `maxSize`. -/
namespace Varint.Delta

theorem zz_lt (x : Nat) (hx : x < 2 ^ 64) : zz x < 2 ^ 64 := by
  unfold zz; split <;> omega

theorem unzz_zz (x : Nat) (hx : x < 2 ^ 64) : unzz (zz x) = x := by
  unfold unzz zz
  split <;> split <;> omega

theorem unzz_lt (z : Nat) (hz : z < 2 ^ 64) : unzz z < 2 ^ 64 := by
  unfold unzz; split <;> omega

theorem field_length (u : Nat) : (field u).length = 1 + extLen u := by
  simp [field]; omega

theorem field_le (u : Nat) (hu : u < 2 ^ 64) : (field u).length ≤ 9 := by
  rw [field_length]; have := extLen_le_8 hu; omega

theorem getField_field (u : Nat) (hu : u < 2 ^ 64) (rest : List Nat) :
    getField (field u ++ rest) = some (u, rest) := by
  have h1 := extLen_pos u
  have h8 := extLen_le_8 hu
  unfold getField field
  simp only [List.cons_append]
  rw [if_pos ⟨h1, h8⟩, takeExact_append _ _ (leBytes_length _ _)]
  simp only [ofLe_leBytes_of_lt (lt_pow_extLen u)]
  congr 2
  rw [List.drop_left' (leBytes_length _ _)]

theorem sub64_lt (x p : Nat) : sub64 x p < 2 ^ 64 := by
  unfold sub64; exact Nat.mod_lt _ (by decide)

theorem add_sub64 (x p : Nat) (hx : x < 2 ^ 64) (hp : p < 2 ^ 64) : (p + sub64 x p) % 2 ^ 64 = x := by
  unfold sub64; omega

theorem decDeltas_step (n cur z : Nat) (hz : z < 2 ^ 64) (rest : List Nat) :
    decDeltas (n + 1) cur (field z ++ rest) =
      match decDeltas n ((cur + unzz z) % 2 ^ 64) rest with
      | none => none
      | some (vs, r) => some ((cur + unzz z) % 2 ^ 64 :: vs, r) := by
  rw [decDeltas, getField_field z hz]
  rfl

theorem decDeltas_deltas (xs : List Nat) (prev : Nat) (hp : prev < 2 ^ 64) (hx : ∀ x ∈ xs, x < 2 ^ 64)
    (rest : List Nat) : decDeltas xs.length prev (deltas prev xs ++ rest) = some (xs, rest) := by
  induction xs generalizing prev with
  | nil => rfl
  | cons x xs ih =>
    have hx0 : x < 2 ^ 64 := hx x (by simp)
    have hs := sub64_lt x prev
    rw [deltas, put, List.length_cons, List.append_assoc, decDeltas_step _ _ _ (zz_lt _ hs),
      unzz_zz _ hs, add_sub64 x prev hx0 hp, ih x hx0 (fun y hy => hx y (by simp [hy]))]

/-- what either decoder meets on an encoder's output: the base field `u`, then `xs` as deltas from `b` -/
theorem dec_field_deltas (u b : Nat) (xs rest : List Nat) (hu : u < 2 ^ 64) (hb : b < 2 ^ 64)
    (hx : ∀ x ∈ xs, x < 2 ^ 64) :
    getField (field u ++ deltas b xs ++ rest) = some (u, deltas b xs ++ rest) ∧
    decDeltas xs.length b (deltas b xs ++ rest) = some (xs, rest) ∧
    (field u ++ deltas b xs ++ rest).length - rest.length = (field u ++ deltas b xs).length :=
  ⟨by rw [List.append_assoc, getField_field u hu], decDeltas_deltas xs b hb hx rest,
    by rw [List.length_append, Nat.add_sub_cancel]⟩

theorem decU_encU (xs : List Nat) (hx : ∀ x ∈ xs, x < 2 ^ 64) (rest : List Nat) :
    decU xs.length (encU xs ++ rest) = some (xs, (encU xs).length) := by
  cases xs with
  | nil => rfl
  | cons b xs =>
    have hb : b < 2 ^ 64 := hx b (by simp)
    obtain ⟨h1, h2, h3⟩ := dec_field_deltas b b xs rest hb hb (fun y hy => hx y (by simp [hy]))
    simp only [encU, decU, List.length_cons, h1, h2, h3]

theorem decS_encS (xs : List Nat) (hx : ∀ x ∈ xs, x < 2 ^ 64) (rest : List Nat) :
    decS xs.length (encS xs ++ rest) = some (xs, (encS xs).length) := by
  cases xs with
  | nil => rfl
  | cons b xs =>
    have hb : b < 2 ^ 64 := hx b (by simp)
    obtain ⟨h1, h2, h3⟩ := dec_field_deltas (zz b) b xs rest (zz_lt b hb) hb (fun y hy => hx y (by simp [hy]))
    simp only [encS, decS, List.length_cons, h1, unzz_zz b hb, h2, h3]

theorem deltas_length_le (xs : List Nat) (prev : Nat) : (deltas prev xs).length ≤ 9 * xs.length := by
  induction xs generalizing prev with
  | nil => simp [deltas]
  | cons x xs ih =>
    simp only [deltas, put, List.length_append, List.length_cons]
    have := field_le _ (zz_lt _ (sub64_lt x prev))
    have := ih x
    omega

theorem field_deltas_length_le (u b : Nat) (xs : List Nat) (hu : u < 2 ^ 64) :
    (field u ++ deltas b xs).length ≤ maxSize (xs.length + 1) := by
  have := field_le u hu
  have := deltas_length_le xs b
  rw [List.length_append, maxSize, if_neg (by omega)]
  omega

theorem encU_length_le (xs : List Nat) (hx : ∀ x ∈ xs, x < 2 ^ 64) : (encU xs).length ≤ maxSize xs.length := by
  cases xs with
  | nil => simp [encU, maxSize]
  | cons b xs => exact field_deltas_length_le b b xs (hx b (by simp))

theorem encS_length_le (xs : List Nat) (hx : ∀ x ∈ xs, x < 2 ^ 64) : (encS xs).length ≤ maxSize xs.length := by
  cases xs with
  | nil => simp [encS, maxSize]
  | cons b xs => exact field_deltas_length_le (zz b) b xs (zz_lt b (hx b (by simp)))

end Varint.Delta
