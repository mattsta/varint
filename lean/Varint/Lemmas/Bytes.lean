import Varint.Model.Bytes
import Varint.Lemmas.List
/- Lemmas about byte lists (`leBytes/beBytes/ofLe/ofBe/takeExact`) and about the digit counts `extLen` (base 256) and `len7`
   (base 128), the latter two as instances of one argument for any base ≥ 2. Core Lean only. -/
namespace Varint

@[simp] theorem leBytes_length (k v : Nat) : (leBytes k v).length = k := by
  induction k generalizing v with
  | zero => rfl
  | succ k ih => simp [leBytes, ih]

theorem leBytes_lt (k v : Nat) : ∀ b ∈ leBytes k v, b < 256 := by
  induction k generalizing v with
  | zero => simp [leBytes]
  | succ k ih =>
    intro b hb
    simp only [leBytes, List.mem_cons] at hb
    rcases hb with h | h
    · omega
    · exact ih _ b h

theorem ofLe_leBytes (k v : Nat) : ofLe (leBytes k v) = v % 256 ^ k := by
  induction k generalizing v with
  | zero => simp [leBytes, ofLe, Nat.mod_one]
  | succ k ih =>
    simp only [leBytes, ofLe, ih]
    rw [Nat.pow_succ, Nat.mul_comm (256 ^ k) 256, Nat.mod_mul]

theorem ofLe_leBytes_of_lt {k v : Nat} (h : v < 256 ^ k) : ofLe (leBytes k v) = v := by
  rw [ofLe_leBytes, Nat.mod_eq_of_lt h]

theorem ofLe_lt (bs : List Nat) (h : ∀ b ∈ bs, b < 256) : ofLe bs < 256 ^ bs.length := by
  induction bs with
  | nil => simp [ofLe]
  | cons b bs ih =>
    have hb : b < 256 := h b (by simp)
    have := ih (fun x hx => h x (by simp [hx]))
    simp only [ofLe, List.length_cons, Nat.pow_succ]
    omega

theorem length_flatMap_leBytes (w : Nat) (vs : List Nat) : (vs.flatMap (leBytes w)).length = vs.length * w :=
  length_flatMap_of_length (leBytes w) w (leBytes_length w) vs

/-- a little-endian list is determined by its value and length -/
theorem leBytes_ofLe (bs : List Nat) (h : ∀ b ∈ bs, b < 256) : leBytes bs.length (ofLe bs) = bs := by
  induction bs with
  | nil => rfl
  | cons b bs ih =>
    have hb : b < 256 := h b (by simp)
    have := ih (fun x hx => h x (by simp [hx]))
    simp only [List.length_cons, leBytes, ofLe]
    have h1 : (b + 256 * ofLe bs) % 256 = b := by omega
    have h2 : (b + 256 * ofLe bs) / 256 = ofLe bs := by omega
    rw [h1, h2, this]

/-! ### the bytes by position, and the two orders against each other -/

theorem leBytes_eq_map (n v : Nat) : leBytes n v = (List.range n).map fun i => v / 2 ^ (8 * i) % 256 := by
  induction n generalizing v with
  | zero => rfl
  | succ n ih =>
    rw [leBytes, ih, List.range_succ_eq_map, List.map_cons, List.map_map, Nat.mul_zero, Nat.pow_zero, Nat.div_one]
    congr 1
    apply List.map_congr_left
    intro i _
    show v / 256 / 2 ^ (8 * i) % 256 = v / 2 ^ (8 * (i + 1)) % 256
    rw [Nat.div_div_eq_div_mul, Nat.mul_succ, Nat.pow_add, Nat.mul_comm]

theorem beBytes_eq_map (n v : Nat) :
    beBytes n v = (List.range n).map fun i => v / 2 ^ (8 * (n - 1 - i)) % 256 := by
  induction n with
  | zero => rfl
  | succ n ih =>
    rw [beBytes, ih, List.range_succ_eq_map, List.map_cons, List.map_map]
    congr 1
    · rw [show (256 : Nat) = 2 ^ 8 from rfl, ← Nat.pow_mul]; rfl
    · apply List.map_congr_left
      intro i _
      show v / 2 ^ (8 * (n - 1 - i)) % 256 = v / 2 ^ (8 * (n + 1 - 1 - (i + 1))) % 256
      rw [show n + 1 - 1 - (i + 1) = n - 1 - i by omega]

/-- `f 0, …, f (n-1)` read from the far end -/
theorem map_range_reverse (f : Nat → Nat) (n : Nat) :
    ((List.range n).map f).reverse = (List.range n).map fun i => f (n - 1 - i) := by
  induction n with
  | zero => rfl
  | succ n ih =>
    have hlast : ((List.range (n + 1)).map f).reverse = f n :: ((List.range n).map f).reverse := by
      rw [List.range_succ, List.map_append, List.reverse_append]
      rfl
    rw [hlast, ih, List.range_succ_eq_map, List.map_cons, List.map_map]
    congr 1
    apply List.map_congr_left
    intro i _
    show f (n - 1 - i) = f (n + 1 - 1 - (i + 1))
    rw [show n + 1 - 1 - (i + 1) = n - 1 - i by omega]

theorem leBytes_reverse (k v : Nat) : (leBytes k v).reverse = beBytes k v := by
  rw [leBytes_eq_map, map_range_reverse, beBytes_eq_map]

theorem ofBe_concat (bs : List Nat) (b : Nat) : ofBe (bs ++ [b]) = 256 * ofBe bs + b := by
  induction bs with
  | nil => simp [ofBe]
  | cons a bs ih =>
    simp only [List.cons_append, ofBe, ih, List.length_append, List.length_cons, List.length_nil, Nat.pow_succ]
    rw [Nat.mul_add, Nat.add_assoc]
    congr 1
    rw [Nat.mul_comm _ 256, ← Nat.mul_assoc, Nat.mul_comm a]
    simp [Nat.mul_assoc]

/-- a little-endian list read from the far end is big-endian -/
theorem ofBe_reverse (bs : List Nat) : ofBe bs.reverse = ofLe bs := by
  induction bs with
  | nil => rfl
  | cons b bs ih => rw [List.reverse_cons, ofBe_concat, ih, ofLe, Nat.add_comm]

theorem ofBe_map_range (f : Nat → Nat) (n : Nat) :
    ofBe ((List.range n).map f) = ofLe ((List.range n).map fun i => f (n - 1 - i)) := by
  rw [← map_range_reverse, ← ofBe_reverse, List.reverse_reverse]

/-! ### big-endian facts from the little-endian ones -/

@[simp] theorem beBytes_length (k v : Nat) : (beBytes k v).length = k := by
  rw [← leBytes_reverse, List.length_reverse, leBytes_length]

theorem beBytes_lt (k v : Nat) : ∀ b ∈ beBytes k v, b < 256 := by
  intro b hb
  rw [← leBytes_reverse, List.mem_reverse] at hb
  exact leBytes_lt k v b hb

theorem ofBe_beBytes (k v : Nat) : ofBe (beBytes k v) = v % 256 ^ k := by
  rw [← leBytes_reverse, ofBe_reverse, ofLe_leBytes]

theorem ofBe_beBytes_of_lt {k v : Nat} (h : v < 256 ^ k) : ofBe (beBytes k v) = v := by
  rw [ofBe_beBytes, Nat.mod_eq_of_lt h]

theorem ofBe_lt (bs : List Nat) (h : ∀ b ∈ bs, b < 256) : ofBe bs < 256 ^ bs.length := by
  have := ofLe_lt bs.reverse fun b hb => h b (List.mem_reverse.mp hb)
  rwa [← ofBe_reverse, List.reverse_reverse, List.length_reverse] at this

/-- `beBytes k` only looks at `v mod 256^k` -/
theorem beBytes_mod (k v : Nat) : beBytes k (v % 256 ^ k) = beBytes k v := by
  induction k generalizing v with
  | zero => rfl
  | succ k ih =>
    rw [beBytes, beBytes, ← ih v, ← ih (v % 256 ^ (k + 1)), Nat.pow_succ, Nat.mod_mul_right_mod,
      Nat.mod_mul_right_div_self, Nat.mod_mod]

theorem beBytes_mod_pow {j k : Nat} (h : j ≤ k) (v : Nat) : beBytes j (v % 256 ^ k) = beBytes j v := by
  rw [← beBytes_mod j (v % 256 ^ k), Nat.mod_mod_of_dvd _ (Nat.pow_dvd_pow 256 h), beBytes_mod]

theorem beBytes_add (j k v : Nat) : beBytes (j + k) v = beBytes j (v / 256 ^ k) ++ beBytes k v := by
  induction j with
  | zero => simp [beBytes]
  | succ j ih =>
    rw [Nat.add_right_comm, beBytes, ih, beBytes, List.cons_append, Nat.div_div_eq_div_mul, ← Nat.pow_add,
      Nat.add_comm k j]

/-- a byte put above `k` big-endian bytes -/
theorem beBytes_succ_add {k v b : Nat} (hv : v < 256 ^ k) (hb : b < 256) :
    beBytes (k + 1) (v + b * 256 ^ k) = b :: beBytes k v := by
  rw [beBytes, Nat.add_mul_div_right _ _ (Nat.pow_pos (by omega)), Nat.div_eq_of_lt hv, Nat.zero_add,
    Nat.mod_eq_of_lt hb, ← beBytes_mod, Nat.add_mul_mod_self_right, beBytes_mod]

theorem beBytes_one (v : Nat) : beBytes 1 v = [v % 256] := by
  simp [beBytes]

theorem beBytes_ofBe (bs : List Nat) (h : ∀ b ∈ bs, b < 256) : beBytes bs.length (ofBe bs) = bs := by
  induction bs with
  | nil => rfl
  | cons b bs ih =>
    have hbs : ∀ x ∈ bs, x < 256 := fun x hx => h x (by simp [hx])
    rw [List.length_cons, ofBe, Nat.add_comm (b * _), beBytes_succ_add (ofBe_lt bs hbs) (h b (by simp)), ih hbs]

/-- byte lists of equal length are determined by their little-endian value -/
theorem ofLe_injective (a b : List Nat) (h : ofLe a = ofLe b) (hlen : a.length = b.length)
    (ha : ∀ x ∈ a, x < 256) (hb : ∀ x ∈ b, x < 256) : a = b := by
  rw [← leBytes_ofLe a ha, ← leBytes_ofLe b hb, h, hlen]

theorem ofBe_injective (a b : List Nat) (h : ofBe a = ofBe b) (hlen : a.length = b.length)
    (ha : ∀ x ∈ a, x < 256) (hb : ∀ x ∈ b, x < 256) : a = b := by
  rw [← beBytes_ofBe a ha, ← beBytes_ofBe b hb, h, hlen]

/-! ### a payload of `k` bytes taken from a buffer of bytes -/

theorem ofBe_take_lt {rest : List Nat} {k : Nat} (hb : ∀ x ∈ rest, x < 256) (hk : k ≤ rest.length) :
    ofBe (rest.take k) < 256 ^ k := by
  have := ofBe_lt (rest.take k) fun x hx => hb x (List.mem_of_mem_take hx)
  rwa [List.length_take, Nat.min_eq_left hk] at this

theorem beBytes_ofBe_take {rest : List Nat} {k : Nat} (hb : ∀ x ∈ rest, x < 256) (hk : k ≤ rest.length) :
    beBytes k (ofBe (rest.take k)) = rest.take k := by
  have := beBytes_ofBe (rest.take k) fun x hx => hb x (List.mem_of_mem_take hx)
  rwa [List.length_take, Nat.min_eq_left hk] at this

theorem ofLe_take_lt {rest : List Nat} {k : Nat} (hb : ∀ x ∈ rest, x < 256) (hk : k ≤ rest.length) :
    ofLe (rest.take k) < 256 ^ k := by
  have := ofLe_lt (rest.take k) fun x hx => hb x (List.mem_of_mem_take hx)
  rwa [List.length_take, Nat.min_eq_left hk] at this

theorem leBytes_ofLe_take {rest : List Nat} {k : Nat} (hb : ∀ x ∈ rest, x < 256) (hk : k ≤ rest.length) :
    leBytes k (ofLe (rest.take k)) = rest.take k := by
  have := leBytes_ofLe (rest.take k) fun x hx => hb x (List.mem_of_mem_take hx)
  rwa [List.length_take, Nat.min_eq_left hk] at this

theorem takeExact_of_le {k : Nat} {bs : List Nat} (h : k ≤ bs.length) : takeExact k bs = some (bs.take k) :=
  if_pos h

theorem takeExact_append {k : Nat} (a rest : List Nat) (h : a.length = k) :
    takeExact k (a ++ rest) = some a := by
  subst h
  rw [takeExact_of_le (by rw [List.length_append]; omega), List.take_left]

/-- `takeExact n` sees the first `n` elements and whether there are that many -/
theorem takeExact_congr {a b : List Nat} {n : Nat} (ht : a.take n = b.take n) (hl : a.length = b.length) :
    takeExact n a = takeExact n b := by
  unfold takeExact
  rw [hl, ht]

theorem takeExact_some {k : Nat} {bs p : List Nat} (h : takeExact k bs = some p) :
    p = bs.take k ∧ k ≤ bs.length ∧ p.length = k := by
  unfold takeExact at h
  split at h
  · simp only [Option.some.injEq] at h
    subst h
    refine ⟨rfl, by assumption, ?_⟩
    rw [List.length_take]; omega
  · simp at h

/-! ### digit counts: what holds of `extLen` (base 256) and `len7` (base 128) holds of any function with their
    unfolding equation -/

/-- the fuel-indexed worker of a digit count answers the same for every fuel `≥ v` -/
theorem digitsAux_fuel {B : Nat} (hB : 2 ≤ B) {aux : Nat → Nat → Nat} (h0 : ∀ v, aux 0 v = 1)
    (hs : ∀ f v, aux (f + 1) v = if v < B then 1 else 1 + aux f (v / B)) (v : Nat) :
    ∀ f g, v ≤ f → v ≤ g → aux f v = aux g v := by
  have hsmall : ∀ f v, v < B → aux f v = 1 := by
    intro f v hv
    cases f with
    | zero => exact h0 v
    | succ f => rw [hs, if_pos hv]
  induction v using Nat.strongRecOn with
  | _ v ih =>
    intro f g hf hg
    by_cases hv : v < B
    · rw [hsmall f v hv, hsmall g v hv]
    · obtain ⟨f, rfl⟩ : ∃ f', f = f' + 1 := ⟨f - 1, by omega⟩
      obtain ⟨g, rfl⟩ : ∃ g', g = g' + 1 := ⟨g - 1, by omega⟩
      have hlt : v / B < v := Nat.div_lt_self (by omega) (by omega)
      rw [hs, hs, if_neg hv, if_neg hv, ih (v / B) hlt f g (by omega) (by omega)]

theorem digitsAux_unfold {B : Nat} (hB : 2 ≤ B) {aux : Nat → Nat → Nat} (h0 : ∀ v, aux 0 v = 1)
    (hs : ∀ f v, aux (f + 1) v = if v < B then 1 else 1 + aux f (v / B)) (v : Nat) :
    aux v v = if v < B then 1 else 1 + aux (v / B) (v / B) := by
  cases v with
  | zero => rw [h0, if_pos (by omega)]
  | succ n =>
    have hlt : (n + 1) / B < n + 1 := Nat.div_lt_self (by omega) (by omega)
    rw [hs, digitsAux_fuel hB h0 hs ((n + 1) / B) n ((n + 1) / B) (by omega) (Nat.le_refl _)]

section digits
variable {B : Nat} {len : Nat → Nat} (hB : 2 ≤ B) (hlen : ∀ v, len v = if v < B then 1 else 1 + len (v / B))
include hB hlen

omit hB in
theorem digits_pos (v : Nat) : 1 ≤ len v := by
  rw [hlen]; split <;> omega

theorem lt_pow_digits (v : Nat) : v < B ^ len v := by
  induction v using Nat.strongRecOn with
  | _ v ih =>
    rw [hlen]
    split
    · simpa using ‹v < B›
    · have hpos : 0 < B := by omega
      have := ih (v / B) (Nat.div_lt_self (by omega) (by omega))
      rw [Nat.add_comm, Nat.pow_succ]
      exact (Nat.div_lt_iff_lt_mul hpos).mp this

theorem digits_le_of_lt {v k : Nat} (hk : 1 ≤ k) (h : v < B ^ k) : len v ≤ k := by
  induction k generalizing v with
  | zero => omega
  | succ k ih =>
    rw [hlen]
    split
    · omega
    · have hk' : 1 ≤ k := by
        rcases k with _ | k
        · simp at h; omega
        · omega
      have hpos : 0 < B := by omega
      rw [Nat.pow_succ] at h
      have := ih hk' ((Nat.div_lt_iff_lt_mul hpos).mpr h)
      omega

theorem lt_pow_of_digits_le {v k : Nat} (h : len v ≤ k) : v < B ^ k :=
  Nat.lt_of_lt_of_le (lt_pow_digits hB hlen v) (Nat.pow_le_pow_right (by omega) h)

theorem digits_le_iff {u j : Nat} (hj : 1 ≤ j) : len u ≤ j ↔ u < B ^ j :=
  ⟨lt_pow_of_digits_le hB hlen, digits_le_of_lt hB hlen hj⟩

theorem le_digits_of_pow_le {v k : Nat} (h : B ^ k ≤ v) : k + 1 ≤ len v := by
  apply Nat.lt_of_not_le
  intro hle
  have := Nat.pow_le_pow_right (n := B) (by omega) hle
  have := lt_pow_digits hB hlen v
  omega

theorem pow_le_of_digits {v k : Nat} (h : len v = k + 2) : B ^ (k + 1) ≤ v := by
  apply Nat.le_of_not_lt
  intro hlt
  have := digits_le_of_lt hB hlen (v := v) (k := k + 1) (by omega) hlt
  omega

theorem digits_mono {v w : Nat} (h : v ≤ w) : len v ≤ len w :=
  digits_le_of_lt hB hlen (digits_pos hlen w) (Nat.lt_of_le_of_lt h (lt_pow_digits hB hlen w))

end digits

theorem extLenAux_fuel (v : Nat) : ∀ f g, v ≤ f → v ≤ g → extLenAux f v = extLenAux g v :=
  digitsAux_fuel (by omega) (fun _ => rfl) (fun _ _ => rfl) v

theorem extLen_eq (v : Nat) : extLen v = if v < 256 then 1 else 1 + extLen (v / 256) :=
  digitsAux_unfold (by omega) (fun _ => rfl) (fun _ _ => rfl) v

theorem len7Aux_fuel (v : Nat) : ∀ f g, v ≤ f → v ≤ g → len7Aux f v = len7Aux g v :=
  digitsAux_fuel (by omega) (fun _ => rfl) (fun _ _ => rfl) v

theorem len7_eq (v : Nat) : len7 v = if v < 128 then 1 else 1 + len7 (v / 128) :=
  digitsAux_unfold (by omega) (fun _ => rfl) (fun _ _ => rfl) v

theorem extLen_pos (v : Nat) : 1 ≤ extLen v := digits_pos extLen_eq v

theorem lt_pow_extLen (v : Nat) : v < 256 ^ extLen v := lt_pow_digits (by omega) extLen_eq v

theorem extLen_le_of_lt {v k : Nat} (hk : 1 ≤ k) (h : v < 256 ^ k) : extLen v ≤ k :=
  digits_le_of_lt (by omega) extLen_eq hk h

theorem lt_pow_of_extLen_le {v w : Nat} (h : extLen v ≤ w) : v < 256 ^ w :=
  lt_pow_of_digits_le (by omega) extLen_eq h

theorem extLen_le_iff {u j : Nat} (hj : 1 ≤ j) : extLen u ≤ j ↔ u < 256 ^ j :=
  digits_le_iff (by omega) extLen_eq hj

theorem le_extLen_of_pow_le {v k : Nat} (h : 256 ^ k ≤ v) : k + 1 ≤ extLen v :=
  le_digits_of_pow_le (by omega) extLen_eq h

theorem extLen_eq_of_lt {v k : Nat} (h1 : 256 ^ k ≤ v) (h2 : v < 256 ^ (k + 1)) : extLen v = k + 1 :=
  Nat.le_antisymm (extLen_le_of_lt (by omega) h2) (le_extLen_of_pow_le h1)

theorem pow_le_of_extLen {v k : Nat} (h : extLen v = k + 2) : 256 ^ (k + 1) ≤ v :=
  pow_le_of_digits (by omega) extLen_eq h

theorem extLen_le_8 {v : Nat} (h : v < 2 ^ 64) : extLen v ≤ 8 :=
  extLen_le_of_lt (by omega) (by simpa using h)

theorem extLen_mono {v w : Nat} (h : v ≤ w) : extLen v ≤ extLen w := digits_mono (by omega) extLen_eq h

theorem len7_pos (v : Nat) : 1 ≤ len7 v := digits_pos len7_eq v

theorem lt_pow_len7 (v : Nat) : v < 128 ^ len7 v := lt_pow_digits (by omega) len7_eq v

theorem len7_le_of_lt {v k : Nat} (hk : 1 ≤ k) (h : v < 128 ^ k) : len7 v ≤ k :=
  digits_le_of_lt (by omega) len7_eq hk h

theorem len7_le_iff {u j : Nat} (hj : 1 ≤ j) : len7 u ≤ j ↔ u < 128 ^ j :=
  digits_le_iff (by omega) len7_eq hj

theorem pow_le_of_len7 {v k : Nat} (h : len7 v = k + 2) : 128 ^ (k + 1) ≤ v :=
  pow_le_of_digits (by omega) len7_eq h

theorem len7_mono {v w : Nat} (h : v ≤ w) : len7 v ≤ len7 w := digits_mono (by omega) len7_eq h

end Varint
