import Varint.Lemmas.Dimension
/-
  Bit cells of the dimension model (`getBit` / `setBit` / `toggleBit`): a bit matrix is stored
  LSB-first behind the `hdrLen dim` header bytes; bit `k` lives in byte `hdrLen dim + k / 8`,
  position `k % 8`.
-/
namespace Varint.Dim

/-- the byte that `setBit` stores: bit `i` of `b` forced to `on` -/
def setBitByte (b i : Nat) (on : Bool) : Nat :=
  if on then b + (1 - b / 2 ^ i % 2) * 2 ^ i else b - b / 2 ^ i % 2 * 2 ^ i

/-- the raw bit `k` of the cell area (no header lookup) -/
def bitAt (buf : List Nat) (dim k : Nat) : Option Bool :=
  (buf[hdrLen dim + k / 8]?).map fun b => b / 2 ^ (k % 8) % 2 = 1

theorem testBit_add_two_pow (x i j : Nat) (h : x.testBit i = false) :
    (x + 2 ^ i).testBit j = if j = i then true else x.testBit j := by
  rcases Nat.lt_trichotomy j i with hlt | rfl | hgt
  · rw [Nat.add_comm, Nat.testBit_two_pow_add_gt hlt, if_neg (by omega)]
  · rw [Nat.add_comm, Nat.testBit_two_pow_add_eq, h, if_pos rfl]
    rfl
  · -- above bit `i`: `x / 2 ^ i` is even, so adding one to it does not carry
    obtain ⟨k, rfl⟩ : ∃ k, j = k + 1 + i := ⟨j - i - 1, by omega⟩
    have he : x / 2 ^ i % 2 = 0 := by rw [← Nat.toNat_testBit, h]; rfl
    rw [if_neg (by omega), ← Nat.testBit_div_two_pow, ← Nat.testBit_div_two_pow x,
      Nat.add_div_right _ (Nat.two_pow_pos i), Nat.testBit_add_one, Nat.testBit_add_one]
    congr 1
    omega

theorem testBit_setBitByte (b i j : Nat) (on : Bool) :
    (setBitByte b i on).testBit j = if j = i then on else b.testBit j := by
  have same : ∀ v, b.testBit i = v → b.testBit j = if j = i then v else b.testBit j := by
    intro v hv
    split
    · subst j; exact hv
    · rfl
  unfold setBitByte
  rw [← Nat.toNat_testBit]
  cases hb : b.testBit i <;> cases on
  · simp only [Bool.toNat_false, Nat.zero_mul, Nat.sub_zero, Bool.false_eq_true, if_false]
    exact same false hb
  · simp only [Bool.toNat_false, Nat.sub_zero, Nat.one_mul, if_true]
    exact testBit_add_two_pow b i j hb
  · -- `b - 2 ^ i` has bit `i` clear and gives `b` back when `2 ^ i` is added
    simp only [Bool.toNat_true, Nat.one_mul, Bool.false_eq_true, if_false]
    have hle : 2 ^ i ≤ b := Nat.ge_two_pow_of_testBit hb
    have hx : (b - 2 ^ i).testBit i = false := by
      have := Nat.testBit_two_pow_add_eq (b - 2 ^ i) i
      rw [Nat.add_sub_cancel' hle, hb] at this
      simpa using this
    have := testBit_add_two_pow (b - 2 ^ i) i j hx
    rw [Nat.sub_add_cancel hle] at this
    rw [this]
    split
    · subst j; exact hx
    · rfl
  · simp only [Bool.toNat_true, Nat.sub_self, Nat.zero_mul, Nat.add_zero, if_true]
    exact same true hb

theorem setBitByte_bit (b i : Nat) (on : Bool) : decide (setBitByte b i on / 2 ^ i % 2 = 1) = on := by
  rw [← Nat.testBit_eq_decide_div_mod_eq, testBit_setBitByte, if_pos rfl]

theorem setBitByte_other (b i j : Nat) (on : Bool) (hne : j ≠ i) :
    setBitByte b i on / 2 ^ j % 2 = b / 2 ^ j % 2 := by
  rw [← Nat.toNat_testBit, ← Nat.toNat_testBit, testBit_setBitByte, if_neg hne]

theorem setBitByte_lt (b i : Nat) (on : Bool) (hb : b < 256) (hi : i < 8) : setBitByte b i on < 256 := by
  apply Nat.lt_pow_two_of_testBit (n := 8)
  intro j hj
  rw [testBit_setBitByte, if_neg (show j ≠ i by omega)]
  exact Nat.testBit_lt_two_pow (Nat.lt_of_lt_of_le hb (Nat.pow_le_pow_right (n := 2) (by omega) hj))

theorem setBitByte_noop (b i : Nat) (on : Bool) (h : decide (b / 2 ^ i % 2 = 1) = on) :
    setBitByte b i on = b := by
  rw [← Nat.testBit_eq_decide_div_mod_eq] at h
  apply Nat.eq_of_testBit_eq
  intro j
  rw [testBit_setBitByte]
  split
  · subst j; exact h.symm
  · rfl

theorem setBitByte_setBitByte (b i : Nat) (x on : Bool) :
    setBitByte (setBitByte b i x) i on = setBitByte b i on := by
  apply Nat.eq_of_testBit_eq
  intro j
  rw [testBit_setBitByte, testBit_setBitByte, testBit_setBitByte]
  split
  · rfl
  · rfl

/-- `b | (1 << i)`, `b ^ (1 << i)` and `b & ~(1 << i)`: the three ways src/varintDimension.c writes one bit of a byte -/
theorem or_two_pow (b i : Nat) : b ||| 2 ^ i = setBitByte b i true := by
  apply Nat.eq_of_testBit_eq
  intro j
  rw [testBit_setBitByte, Nat.testBit_or, Nat.testBit_two_pow]
  by_cases c : j = i
  · subst c; simp
  · rw [if_neg c, decide_eq_false (Ne.symm c), Bool.or_false]

theorem xor_two_pow (b i : Nat) : b ^^^ 2 ^ i = setBitByte b i (!b.testBit i) := by
  apply Nat.eq_of_testBit_eq
  intro j
  rw [testBit_setBitByte, Nat.testBit_xor, Nat.testBit_two_pow]
  by_cases c : j = i
  · subst c; simp
  · rw [if_neg c, decide_eq_false (Ne.symm c), Bool.xor_false]

theorem and_not_two_pow (b i : Nat) (hb : b < 2 ^ 8) (hp : 2 ^ i < 2 ^ 8) :
    b &&& (2 ^ 8 - (2 ^ i + 1)) = setBitByte b i false := by
  apply Nat.eq_of_testBit_eq
  intro j
  rw [testBit_setBitByte, Nat.testBit_and, Nat.testBit_two_pow_sub_succ hp, Nat.testBit_two_pow]
  by_cases c : j = i
  · subst c; simp
  · rw [if_neg c, decide_eq_false (Ne.symm c)]
    by_cases c8 : j < 8
    · simp [c8]
    · simp [c8, Nat.testBit_lt_two_pow (Nat.lt_of_lt_of_le hb (Nat.pow_le_pow_right (n := 2) (by omega) (by omega : 8 ≤ j)))]

theorem set_eq_self_of_getElem? (l : List Nat) (i b : Nat) (h : l[i]? = some b) : l.set i b = l := by
  obtain ⟨hlt, rfl⟩ := List.getElem?_eq_some_iff.mp h
  exact List.set_getElem_self hlt

theorem getElem?_set_of_getElem? (l : List Nat) (i b x : Nat) (h : l[i]? = some b) : (l.set i x)[i]? = some x :=
  List.getElem?_set_self (List.getElem?_eq_some_iff.mp h).1

theorem setBit_some (buf out : List Nat) (dim row col : Nat) (on : Bool)
    (h : setBit buf dim row col on = some out) :
    ∃ k b, cellIndex buf dim row col = some k ∧ buf[hdrLen dim + k / 8]? = some b ∧
      out = buf.set (hdrLen dim + k / 8) (setBitByte b (k % 8) on) := by
  unfold setBit at h
  cases hk : cellIndex buf dim row col with
  | none => rw [hk] at h; cases h
  | some k =>
    rw [hk] at h
    simp only [] at h
    cases hb : buf[hdrLen dim + k / 8]? with
    | none => rw [hb] at h; cases h
    | some b =>
      rw [hb] at h
      simp only [Option.some.injEq] at h
      exact ⟨k, b, rfl, hb, h.symm⟩

theorem setBit_of_index (buf : List Nat) (dim row col k b : Nat) (on : Bool)
    (hk : cellIndex buf dim row col = some k) (hb : buf[hdrLen dim + k / 8]? = some b) :
    setBit buf dim row col on = some (buf.set (hdrLen dim + k / 8) (setBitByte b (k % 8) on)) := by
  unfold setBit
  rw [hk]
  simp only []
  rw [hb]
  rfl

theorem getBit_of_index (buf : List Nat) (dim row col k : Nat) (hk : cellIndex buf dim row col = some k) :
    getBit buf dim row col = bitAt buf dim k := by
  unfold getBit bitAt
  rw [hk]

theorem getBit_some (buf : List Nat) (dim row col : Nat) (v : Bool) (h : getBit buf dim row col = some v) :
    ∃ k b, cellIndex buf dim row col = some k ∧ buf[hdrLen dim + k / 8]? = some b ∧
      decide (b / 2 ^ (k % 8) % 2 = 1) = v := by
  cases hk : cellIndex buf dim row col with
  | none => unfold getBit at h; rw [hk] at h; cases h
  | some k =>
    rw [getBit_of_index buf dim row col k hk] at h
    unfold bitAt at h
    cases hb : buf[hdrLen dim + k / 8]? with
    | none => rw [hb] at h; cases h
    | some b =>
      rw [hb] at h
      exact ⟨k, b, rfl, hb, Option.some.inj h⟩

theorem setBit_length (buf out : List Nat) (dim row col : Nat) (on : Bool)
    (h : setBit buf dim row col on = some out) : out.length = buf.length := by
  obtain ⟨k, b, _, _, e⟩ := setBit_some buf out dim row col on h
  rw [e, List.length_set]

theorem setBit_header (buf out : List Nat) (dim row col : Nat) (on : Bool)
    (h : setBit buf dim row col on = some out) : out.take (hdrLen dim) = buf.take (hdrLen dim) := by
  obtain ⟨k, b, _, _, e⟩ := setBit_some buf out dim row col on h
  rw [e, List.take_set_of_le (by omega)]

theorem setBit_cellIndex (buf out : List Nat) (dim row col : Nat) (on : Bool)
    (h : setBit buf dim row col on = some out) (r c : Nat) : cellIndex out dim r c = cellIndex buf dim r c :=
  cellIndex_congr out buf dim r c (setBit_header buf out dim row col on h) (setBit_length buf out dim row col on h)

theorem setBit_pairDecode (buf out : List Nat) (dim row col : Nat) (on : Bool)
    (h : setBit buf dim row col on = some out) : pairDecode out dim = pairDecode buf dim :=
  pairDecode_congr out buf dim (setBit_header buf out dim row col on h) (setBit_length buf out dim row col on h)

theorem setBit_getElem_ne (buf out : List Nat) (dim row col k : Nat) (on : Bool)
    (hk : cellIndex buf dim row col = some k) (h : setBit buf dim row col on = some out)
    (j : Nat) (hj : j ≠ hdrLen dim + k / 8) : out[j]? = buf[j]? := by
  obtain ⟨k', b, hk', hb, e⟩ := setBit_some buf out dim row col on h
  rw [hk] at hk'
  cases hk'
  rw [e, List.getElem?_set_ne (fun hh => hj hh.symm)]

theorem bitAt_setBit (buf out : List Nat) (dim row col k : Nat) (on : Bool)
    (hk : cellIndex buf dim row col = some k) (h : setBit buf dim row col on = some out) (k' : Nat) :
    bitAt out dim k' = if k' = k then some on else bitAt buf dim k' := by
  unfold bitAt
  by_cases hbyte : k' / 8 = k / 8
  · obtain ⟨k2, b, hk2, hb, e⟩ := setBit_some buf out dim row col on h
    rw [hk] at hk2
    cases hk2
    rw [hbyte, e, getElem?_set_of_getElem? buf _ b _ hb, hb]
    simp only [Option.map_some]
    by_cases hkk : k' = k
    · rw [if_pos hkk, hkk]
      exact congrArg some (setBitByte_bit b (k % 8) on)
    · rw [if_neg hkk, setBitByte_other b (k % 8) (k' % 8) on (by omega)]
  · rw [if_neg (fun hkk => hbyte (by rw [hkk])), setBit_getElem_ne buf out dim row col k on hk h _ (by omega)]

theorem getBit_setBit (buf out : List Nat) (dim row col : Nat) (on : Bool)
    (h : setBit buf dim row col on = some out) : getBit out dim row col = some on := by
  obtain ⟨k, _, hk, _, _⟩ := setBit_some buf out dim row col on h
  rw [getBit_of_index out dim row col k (by rw [setBit_cellIndex buf out dim row col on h, hk]),
    bitAt_setBit buf out dim row col k on hk h, if_pos rfl]

theorem setBit_bitAt_ne (buf out : List Nat) (dim row col k : Nat) (on : Bool)
    (hk : cellIndex buf dim row col = some k) (h : setBit buf dim row col on = some out)
    (k' : Nat) (hne : k' ≠ k) : bitAt out dim k' = bitAt buf dim k' := by
  rw [bitAt_setBit buf out dim row col k on hk h, if_neg hne]

theorem setBit_bytes (buf out : List Nat) (dim row col : Nat) (on : Bool)
    (h : setBit buf dim row col on = some out) (hbytes : ∀ x ∈ buf, x < 256) : ∀ x ∈ out, x < 256 := by
  obtain ⟨k, b, _, hb, e⟩ := setBit_some buf out dim row col on h
  intro x hx
  rw [e] at hx
  rcases List.mem_or_eq_of_mem_set hx with hm | hm
  · exact hbytes x hm
  · rw [hm]
    exact setBitByte_lt b (k % 8) on (hbytes b (List.mem_of_getElem? hb)) (Nat.mod_lt _ (by omega))

theorem setBit_other_bits (buf out : List Nat) (dim row col k : Nat) (on : Bool)
    (hk : cellIndex buf dim row col = some k) (h : setBit buf dim row col on = some out) :
    (∀ k', k' ≠ k →
      (out[hdrLen dim + k' / 8]?).map (fun b => decide (b / 2 ^ (k' % 8) % 2 = 1)) =
      (buf[hdrLen dim + k' / 8]?).map (fun b => decide (b / 2 ^ (k' % 8) % 2 = 1))) ∧
    (∀ j, j ≠ hdrLen dim + k / 8 → out[j]? = buf[j]?) ∧
    out.length = buf.length ∧
    out.take (hdrLen dim) = buf.take (hdrLen dim) ∧
    ((∀ x ∈ buf, x < 256) → ∀ x ∈ out, x < 256) :=
  ⟨fun k' hne => setBit_bitAt_ne buf out dim row col k on hk h k' hne,
   fun j hj => setBit_getElem_ne buf out dim row col k on hk h j hj,
   setBit_length buf out dim row col on h,
   setBit_header buf out dim row col on h,
   setBit_bytes buf out dim row col on h⟩

theorem getBit_setBit_other (buf out : List Nat) (dim row col row' col' k k' : Nat) (on : Bool)
    (hk : cellIndex buf dim row col = some k) (hk' : cellIndex buf dim row' col' = some k') (hne : k' ≠ k)
    (h : setBit buf dim row col on = some out) : getBit out dim row' col' = getBit buf dim row' col' := by
  have hci := setBit_cellIndex buf out dim row col on h row' col'
  rw [getBit_of_index out dim row' col' k' (by rw [hci, hk']), getBit_of_index buf dim row' col' k' hk']
  exact setBit_bitAt_ne buf out dim row col k on hk h k' hne

/-- a cell whose index cannot be computed (rows below the first need the column count, and the header is too short to
    decode) still has none after a write -/
theorem getBit_setBit_unresolved (buf out : List Nat) (dim row col row' col' : Nat) (on : Bool)
    (hk' : cellIndex buf dim row' col' = none)
    (h : setBit buf dim row col on = some out) : getBit out dim row' col' = getBit buf dim row' col' := by
  have hci := setBit_cellIndex buf out dim row col on h row' col'
  unfold getBit
  rw [hci, hk']

theorem dim_bits_disjoint (buf out : List Nat) (dim row col row' col' cols : Nat) (on : Bool)
    (hcols : ∀ r c, r ≠ 0 → cellIndex buf dim r c = some (r * cols + c))
    (hc : col < cols) (hc' : col' < cols) (hne : (row, col) ≠ (row', col'))
    (h : setBit buf dim row col on = some out) :
    getBit out dim row' col' = getBit buf dim row' col' ∧
    out.take (hdrLen dim) = buf.take (hdrLen dim) ∧ out.length = buf.length := by
  have hidx := cellIndex_of_cols buf dim cols hcols
  exact ⟨getBit_setBit_other buf out dim row col row' col' _ _ on (hidx row col) (hidx row' col')
      (index_ne cols row' col' row col hc' hc (Ne.symm hne)) h,
    setBit_header buf out dim row col on h, setBit_length buf out dim row col on h⟩

theorem setBit_overwrite (buf out : List Nat) (dim row col : Nat) (on on' : Bool)
    (h : setBit buf dim row col on = some out) : setBit out dim row col on' = setBit buf dim row col on' := by
  have hci := setBit_cellIndex buf out dim row col on h row col
  obtain ⟨k, b, hk, hb, e⟩ := setBit_some buf out dim row col on h
  have hb' : out[hdrLen dim + k / 8]? = some (setBitByte b (k % 8) on) := by
    rw [e, getElem?_set_of_getElem? buf _ b _ hb]
  rw [setBit_of_index out dim row col k _ on' (by rw [hci, hk]) hb', setBit_of_index buf dim row col k b on' hk hb,
    e, List.set_set, setBitByte_setBitByte]

theorem setBit_noop (buf : List Nat) (dim row col : Nat) (on : Bool)
    (h : getBit buf dim row col = some on) : setBit buf dim row col on = some buf := by
  obtain ⟨k, b, hk, hb, hv⟩ := getBit_some buf dim row col on h
  rw [setBit_of_index buf dim row col k b on hk hb, setBitByte_noop b (k % 8) on hv,
    set_eq_self_of_getElem? buf _ b hb]

theorem setBit_idempotent (buf out : List Nat) (dim row col : Nat) (on : Bool)
    (h : setBit buf dim row col on = some out) : setBit out dim row col on = some out := by
  rw [setBit_overwrite buf out dim row col on on h, h]

theorem setBit_setBit (buf out : List Nat) (dim row col : Nat) (on on' : Bool)
    (h : setBit buf dim row col on = some out) :
    ∃ out', setBit out dim row col on' = some out' ∧ getBit out' dim row col = some on' ∧
      out'.length = buf.length ∧ out'.take (hdrLen dim) = buf.take (hdrLen dim) := by
  obtain ⟨k, b, hk, hb, _⟩ := setBit_some buf out dim row col on h
  have hs := setBit_of_index buf dim row col k b on' hk hb
  exact ⟨_, by rw [setBit_overwrite buf out dim row col on on' h, hs], getBit_setBit _ _ _ _ _ _ hs,
    setBit_length _ _ _ _ _ _ hs, setBit_header _ _ _ _ _ _ hs⟩

theorem toggleBit_some (buf out : List Nat) (dim row col : Nat) (old : Bool)
    (h : toggleBit buf dim row col = some (out, old)) :
    getBit buf dim row col = some old ∧ setBit buf dim row col (!old) = some out := by
  unfold toggleBit at h
  cases hg : getBit buf dim row col with
  | none => rw [hg] at h; cases h
  | some o =>
    rw [hg] at h
    simp only [] at h
    cases hs : setBit buf dim row col (!o) with
    | none => rw [hs] at h; cases h
    | some o2 =>
      rw [hs] at h
      simp only [Option.map_some, Option.some.injEq, Prod.mk.injEq] at h
      obtain ⟨h1, h2⟩ := h
      subst h1; subst h2
      exact ⟨rfl, hs⟩

theorem toggleBit_of_setBit (buf out : List Nat) (dim row col : Nat) (old : Bool)
    (hg : getBit buf dim row col = some old) (hs : setBit buf dim row col (!old) = some out) :
    toggleBit buf dim row col = some (out, old) := by
  unfold toggleBit
  rw [hg]
  simp only []
  rw [hs]
  rfl

theorem toggleBit_spec (buf out : List Nat) (dim row col : Nat) (old : Bool)
    (h : toggleBit buf dim row col = some (out, old)) :
    getBit buf dim row col = some old ∧ getBit out dim row col = some (!old) ∧
    out.length = buf.length ∧ out.take (hdrLen dim) = buf.take (hdrLen dim) := by
  obtain ⟨hg, hs⟩ := toggleBit_some buf out dim row col old h
  exact ⟨hg, getBit_setBit buf out dim row col (!old) hs, setBit_length _ _ _ _ _ _ hs,
    setBit_header _ _ _ _ _ _ hs⟩

theorem toggleBit_of_getBit (buf : List Nat) (dim row col : Nat) (old : Bool)
    (h : getBit buf dim row col = some old) : ∃ out, toggleBit buf dim row col = some (out, old) := by
  obtain ⟨k, b, hk, hb, _⟩ := getBit_some buf dim row col old h
  exact ⟨_, toggleBit_of_setBit buf _ dim row col old h (setBit_of_index buf dim row col k b (!old) hk hb)⟩

theorem toggleBit_other_bits (buf out : List Nat) (dim row col k : Nat) (old : Bool)
    (hk : cellIndex buf dim row col = some k) (h : toggleBit buf dim row col = some (out, old)) :
    (∀ k', k' ≠ k →
      (out[hdrLen dim + k' / 8]?).map (fun b => decide (b / 2 ^ (k' % 8) % 2 = 1)) =
      (buf[hdrLen dim + k' / 8]?).map (fun b => decide (b / 2 ^ (k' % 8) % 2 = 1))) ∧
    (∀ j, j ≠ hdrLen dim + k / 8 → out[j]? = buf[j]?) ∧
    out.length = buf.length ∧
    out.take (hdrLen dim) = buf.take (hdrLen dim) ∧
    ((∀ x ∈ buf, x < 256) → ∀ x ∈ out, x < 256) :=
  setBit_other_bits buf out dim row col k (!old) hk (toggleBit_some buf out dim row col old h).2

theorem getBit_toggleBit_other (buf out : List Nat) (dim row col row' col' k k' : Nat) (old : Bool)
    (hk : cellIndex buf dim row col = some k) (hk' : cellIndex buf dim row' col' = some k') (hne : k' ≠ k)
    (h : toggleBit buf dim row col = some (out, old)) : getBit out dim row' col' = getBit buf dim row' col' :=
  getBit_setBit_other buf out dim row col row' col' k k' (!old) hk hk' hne
    (toggleBit_some buf out dim row col old h).2

theorem toggleBit_toggleBit (buf out : List Nat) (dim row col : Nat) (old : Bool)
    (h : toggleBit buf dim row col = some (out, old)) : toggleBit out dim row col = some (buf, !old) := by
  obtain ⟨hg, hs⟩ := toggleBit_some buf out dim row col old h
  apply toggleBit_of_setBit out buf dim row col (!old) (getBit_setBit buf out dim row col (!old) hs)
  rw [setBit_overwrite buf out dim row col (!old) (!(!old)) hs, Bool.not_not]
  exact setBit_noop buf dim row col old hg

end Varint.Dim
