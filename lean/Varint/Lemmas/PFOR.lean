import Varint.Model.PFOR
import Varint.Lemmas.Bytes
import Varint.Lemmas.Tagged
import Varint.Lemmas.List
/- Lemmas about the patched frame-of-reference codec model (src/varintPFOR.c). Core Lean only. -/
namespace Varint.PFOR

/-- the inputs the C encoder accepts: non-empty, count fits the 32-bit count field, 64-bit values -/
def Good (xs : List Nat) : Prop := xs ≠ [] ∧ xs.length < 2 ^ 32 ∧ ∀ x ∈ xs, x < 2 ^ 64

theorem pow256_eq (w : Nat) : 2 ^ (8 * w) = 256 ^ w := by
  rw [Nat.pow_mul]

theorem marker_lt (w : Nat) : marker w < 256 ^ w := by
  unfold marker
  split
  · rename_i h
    have : 256 ^ 8 ≤ 256 ^ w := Nat.pow_le_pow_right (by omega) h
    have e : (256 : Nat) ^ 8 = 2 ^ 64 := by rw [← pow256_eq]
    omega
  · rw [pow256_eq]
    have : 0 < 256 ^ w := Nat.pow_pos (by omega)
    omega

theorem marker_eq_of_le {w : Nat} (h : w ≤ 8) : marker w = 256 ^ w - 1 := by
  unfold marker
  split
  · rename_i h8
    have : w = 8 := by omega
    subst this
    have e : (256 : Nat) ^ 8 = 2 ^ 64 := by rw [← pow256_eq]
    rw [e]
  · rw [pow256_eq]

theorem sorted_facts (xs : List Nat) (hne : xs ≠ []) :
    ∃ s ss, xs.mergeSort (· ≤ ·) = s :: ss ∧ (∀ y ∈ s :: ss, s ≤ y) := by
  have hp := sort_pairwise xs
  cases h : xs.mergeSort (· ≤ ·) with
  | nil =>
    have := List.length_mergeSort (le := fun a b => decide (a ≤ b)) xs
    rw [h] at this
    exact absurd (List.eq_nil_of_length_eq_zero this.symm) hne
  | cons s ss =>
    rw [h] at hp
    refine ⟨s, ss, rfl, ?_⟩
    intro y hy
    rcases List.mem_cons.1 hy with rfl | hy
    · exact Nat.le_refl _
    · exact (List.pairwise_cons.mp hp).1 y hy

/-- the percentile index used by `varintPFORComputeThreshold` -/
def thrIdx (n t : Nat) : Nat :=
  if (n * t) / 100 ≥ n then n - 1 else (n * t) / 100

theorem thrIdx_lt {n : Nat} (t : Nat) (h : 0 < n) : thrIdx n t < n := by
  unfold thrIdx
  split <;> omega

theorem compute_min (xs : List Nat) (t : Nat) :
    (compute xs t).min = (xs.mergeSort (· ≤ ·)).headD 0 := rfl

theorem compute_thr (xs : List Nat) (t : Nat) :
    (compute xs t).thresholdValue = (xs.mergeSort (· ≤ ·)).getD (thrIdx xs.length t) 0 := rfl

theorem compute_count (xs : List Nat) (t : Nat) : (compute xs t).count = xs.length := rfl

theorem compute_marker (xs : List Nat) (t : Nat) :
    (compute xs t).marker = marker (compute xs t).width := rfl

theorem compute_threshold (xs : List Nat) (t : Nat) : (compute xs t).threshold = t := rfl

theorem compute_exceptionCount (xs : List Nat) (t : Nat) :
    (compute xs t).exceptionCount = (xs.filter (· > (compute xs t).thresholdValue)).length := rfl

theorem compute_width (xs : List Nat) (t : Nat) :
    (compute xs t).width =
      if (compute xs t).thresholdValue - (compute xs t).min < 2 ^ 64 - 1
      then extLen ((compute xs t).thresholdValue - (compute xs t).min + 1) else 8 := rfl

/-- everything the round trip needs to know about the analysis result -/
structure Facts (m : Meta) (xs : List Nat) : Prop where
  min_le : ∀ x ∈ xs, m.min ≤ x
  min_mem : m.min ∈ xs
  min_le_thr : m.min ≤ m.thresholdValue
  thr_mem : m.thresholdValue ∈ xs
  width_pos : 1 ≤ m.width
  width_le : m.width ≤ 8
  marker_eq : m.marker = marker m.width
  count_eq : m.count = xs.length
  exc_eq : m.exceptionCount = (xs.filter (· > m.thresholdValue)).length
  exc_le : m.exceptionCount ≤ xs.length
  sep : ∀ x ∈ xs, x ≤ m.thresholdValue →
    x - m.min < 256 ^ m.width ∧ (x - m.min ≠ marker m.width ∨ x = 2 ^ 64 - 1)

theorem compute_facts (xs : List Nat) (g : Good xs) (t : Nat) : Facts (compute xs t) xs := by
  obtain ⟨hne, hlen, hlt⟩ := g
  obtain ⟨s, ss, hs, hmin⟩ := sorted_facts xs hne
  have hmem : ∀ y, y ∈ s :: ss ↔ y ∈ xs := by
    intro y; rw [← hs]; exact List.mem_mergeSort
  have hslen : (s :: ss).length = xs.length := by
    rw [← hs]; exact List.length_mergeSort xs
  have hpos : 0 < xs.length := List.length_pos_iff.mpr hne
  have hmn : (compute xs t).min = s := by rw [compute_min, hs]; rfl
  have hidx : thrIdx xs.length t < (s :: ss).length := by rw [hslen]; exact thrIdx_lt t hpos
  have hthr : (compute xs t).thresholdValue = (s :: ss)[thrIdx xs.length t] := by
    rw [compute_thr, hs, List.getD_eq_getElem?_getD, List.getElem?_eq_getElem hidx, Option.getD_some]
  have hthr_mem' : (compute xs t).thresholdValue ∈ s :: ss := by
    rw [hthr]; exact List.getElem_mem hidx
  have hthr_mem : (compute xs t).thresholdValue ∈ xs := (hmem _).mp hthr_mem'
  have hmin_mem : (compute xs t).min ∈ xs := by
    rw [hmn]; exact (hmem s).mp (by simp)
  have hmin_le : ∀ x ∈ xs, (compute xs t).min ≤ x := by
    intro x hx; rw [hmn]; exact hmin x ((hmem x).mpr hx)
  have hmt : (compute xs t).min ≤ (compute xs t).thresholdValue := hmin_le _ hthr_mem
  have hthr_lt : (compute xs t).thresholdValue < 2 ^ 64 := hlt _ hthr_mem
  have hw := compute_width xs t
  have hw1 : 1 ≤ (compute xs t).width := by
    rw [hw]; split
    · exact extLen_pos _
    · omega
  have hw8 : (compute xs t).width ≤ 8 := by
    rw [hw]; split
    · exact extLen_le_8 (by omega)
    · omega
  have hfl : (xs.filter (· > (compute xs t).thresholdValue)).length ≤ xs.length :=
    List.length_filter_le _ _
  refine ⟨hmin_le, hmin_mem, hmt, hthr_mem, hw1, hw8, compute_marker xs t, compute_count xs t,
    compute_exceptionCount xs t, by rw [compute_exceptionCount]; exact hfl, ?_⟩
  intro x hx hxt
  have hxm := hmin_le x hx
  have hx64 := hlt x hx
  rw [marker_eq_of_le hw8]
  by_cases hr : (compute xs t).thresholdValue - (compute xs t).min < 2 ^ 64 - 1
  · have hweq : (compute xs t).width =
        extLen ((compute xs t).thresholdValue - (compute xs t).min + 1) := by rw [hw, if_pos hr]
    have hb := lt_pow_extLen ((compute xs t).thresholdValue - (compute xs t).min + 1)
    rw [← hweq] at hb
    refine ⟨by omega, Or.inl (by omega)⟩
  · have hweq : (compute xs t).width = 8 := by rw [hw, if_neg hr]
    rw [hweq]
    have e : (256 : Nat) ^ 8 = 2 ^ 64 := by rw [← pow256_eq]
    rw [e]
    refine ⟨by omega, ?_⟩
    by_cases hx1 : x = 2 ^ 64 - 1
    · exact Or.inr hx1
    · exact Or.inl (by omega)

/-- what the slot pass of the decoder leaves: every exception replaced by the placeholder -/
def masked (m : Meta) (xs : List Nat) : List Nat :=
  xs.map fun x => if x > m.thresholdValue then 2 ^ 64 - 1 else x

theorem masked_length (m : Meta) (xs : List Nat) : (masked m xs).length = xs.length := by
  simp [masked]

theorem slots_length (m : Meta) (xs : List Nat) : (slots m xs).length = xs.length * m.width := by
  induction xs with
  | nil => simp [slots]
  | cons x xs ih =>
    rw [slots, List.length_append, ih, List.length_cons, Nat.add_mul, Nat.one_mul]
    split <;> simp only [leBytes_length] <;> omega

theorem slots_lt (m : Meta) (xs : List Nat) : ∀ b ∈ slots m xs, b < 256 := by
  induction xs with
  | nil => simp [slots]
  | cons x xs ih =>
    intro b hb
    rw [slots, List.mem_append] at hb
    rcases hb with hb | hb
    · split at hb
      · exact leBytes_lt _ _ b hb
      · exact leBytes_lt _ _ b hb
    · exact ih b hb

theorem readSlots_slots (m : Meta) (hm : m.marker = marker m.width) (ys : List Nat)
    (h : ∀ x ∈ ys, m.min ≤ x ∧ x < 2 ^ 64 ∧ (x ≤ m.thresholdValue →
      x - m.min < 256 ^ m.width ∧ (x - m.min ≠ marker m.width ∨ x = 2 ^ 64 - 1)))
    (tail : List Nat) :
    readSlots ys.length m.min m.width (slots m ys ++ tail) = some (masked m ys) := by
  induction ys with
  | nil => rfl
  | cons x ys ih =>
    obtain ⟨h1, h2, h3⟩ := h x (by simp)
    have ih' := ih (fun y hy => h y (by simp [hy]))
    -- the slot written for `x` holds an `s` that fits the width and reads back as `x`, or as the placeholder
    have key : ∃ s, s < 256 ^ m.width ∧ slots m (x :: ys) = leBytes m.width s ++ slots m ys ∧
        (if s = marker m.width then 2 ^ 64 - 1 else (m.min + s) % 2 ^ 64) =
          (if x > m.thresholdValue then 2 ^ 64 - 1 else x) := by
      by_cases hx : x > m.thresholdValue
      · exact ⟨m.marker, by rw [hm]; exact marker_lt _, by rw [slots, if_pos hx], by rw [hm, if_pos rfl, if_pos hx]⟩
      · obtain ⟨h4, h5⟩ := h3 (by omega)
        refine ⟨x - m.min, h4, by rw [slots, if_neg hx], ?_⟩
        rw [if_neg hx]
        split <;> omega
    obtain ⟨s, hs, he, hv⟩ := key
    rw [he, List.length_cons, List.append_assoc, readSlots, takeExact_append _ _ (leBytes_length _ _)]
    simp only []
    rw [List.drop_left' (leBytes_length _ _), ih', ofLe_leBytes_of_lt hs, hv]
    rfl

theorem set_append_length (pre : List Nat) (a v : Nat) (l : List Nat) :
    (pre ++ a :: l).set pre.length v = pre ++ v :: l := by
  induction pre with
  | nil => rfl
  | cons p pre ih => simp [ih]

theorem applyExcs_step (k i v : Nat) (hi : i < 2 ^ 64) (hv : v < 2 ^ 64) (vals R : List Nat) :
    applyExcs (k + 1) vals (Tagged.enc i ++ Tagged.enc v ++ R)
      = applyExcs k (if i < vals.length then vals.set i v else vals) R := by
  rw [applyExcs, List.append_assoc, Tagged.get_enc _ hi]
  simp only []
  rw [List.drop_left, Tagged.get_enc _ hv]
  simp only []
  rw [← List.append_assoc, List.drop_left' (by simp)]

theorem applyExcs_excs (m : Meta) (ys : List Nat) (hy : ∀ y ∈ ys, y < 2 ^ 64) (pre rest : List Nat)
    (hl : pre.length + ys.length ≤ 2 ^ 64) :
    applyExcs (ys.filter (· > m.thresholdValue)).length (pre ++ masked m ys)
      (excs m pre.length ys ++ rest) = some (pre ++ ys) := by
  induction ys generalizing pre with
  | nil => simp [applyExcs, masked]
  | cons y ys ih =>
    have hy64 := hy y (by simp)
    have hl' : pre.length + 1 + ys.length ≤ 2 ^ 64 := by simp only [List.length_cons] at hl; omega
    have ih' := ih (fun z hz => hy z (by simp [hz])) (pre ++ [y])
      (by simp only [List.length_append, List.length_singleton]; exact hl')
    simp only [List.length_append, List.length_singleton, List.append_assoc,
      List.singleton_append] at ih'
    by_cases hx : y > m.thresholdValue
    · rw [List.filter_cons_of_pos (by simpa using hx), List.length_cons, excs, if_pos hx,
        List.append_assoc, applyExcs_step _ _ _ (by omega) hy64]
      simp only [masked, List.map_cons, if_pos hx]
      rw [if_pos (by simp), set_append_length]
      exact ih'
    · rw [List.filter_cons_of_neg (by simpa using hx), excs, if_neg hx, List.nil_append]
      simp only [masked, List.map_cons, if_neg hx]
      exact ih'

theorem excs_lt (m : Meta) (ys : List Nat) (i : Nat) : ∀ b ∈ excs m i ys, b < 256 := by
  induction ys generalizing i with
  | nil => simp [excs]
  | cons y ys ih =>
    intro b hb
    rw [excs, List.mem_append] at hb
    rcases hb with hb | hb
    · split at hb
      · exact List.forall_mem_append.2 ⟨Tagged.enc_lt i, Tagged.enc_lt y⟩ b hb
      · simp at hb
    · exact ih (i + 1) b hb

theorem excs_length_le (m : Meta) (ys : List Nat) (i B : Nat) (hB : i + ys.length ≤ B + 1) :
    (excs m i ys).length ≤ (ys.filter (· > m.thresholdValue)).length * (Tagged.len B + 9) := by
  induction ys generalizing i with
  | nil => simp [excs]
  | cons y ys ih =>
    simp only [List.length_cons] at hB
    have ih' := ih (i + 1) (by omega)
    by_cases hx : y > m.thresholdValue
    · rw [List.filter_cons_of_pos (by simpa using hx), List.length_cons, excs, if_pos hx,
        Nat.succ_mul]
      simp only [List.length_append, Tagged.enc_length]
      have h1 := Tagged.len_mono (a := i) (b := B) (by omega)
      have h2 := (Tagged.len_bounds y).2
      omega
    · rw [List.filter_cons_of_neg (by simpa using hx), excs, if_neg hx, List.nil_append]
      exact ih'

/-- the exception records as (index, value) pairs -/
def excList (thr : Nat) : Nat → List Nat → List (Nat × Nat)
  | _, [] => []
  | i, x :: xs => if x > thr then (i, x) :: excList thr (i + 1) xs else excList thr (i + 1) xs

theorem excs_eq_flatMap (m : Meta) (i : Nat) (ys : List Nat) :
    excs m i ys = (excList m.thresholdValue i ys).flatMap
      (fun p => Tagged.enc p.1 ++ Tagged.enc p.2) := by
  induction ys generalizing i with
  | nil => rfl
  | cons y ys ih =>
    rw [excs, excList, ih (i + 1)]
    split <;> simp

theorem excList_length (thr i : Nat) (ys : List Nat) :
    (excList thr i ys).length = (ys.filter (· > thr)).length := by
  induction ys generalizing i with
  | nil => rfl
  | cons y ys ih =>
    rw [excList]
    by_cases hx : y > thr
    · rw [if_pos hx, List.filter_cons_of_pos (by simpa using hx), List.length_cons,
        List.length_cons, ih]
    · rw [if_neg hx, List.filter_cons_of_neg (by simpa using hx), ih]

theorem mem_excList (thr i : Nat) (ys : List Nat) (j v : Nat) :
    (j, v) ∈ excList thr i ys ↔ i ≤ j ∧ ys[j - i]? = some v ∧ v > thr := by
  induction ys generalizing i with
  | nil => simp [excList]
  | cons y ys ih =>
    rw [excList]
    -- `j` is before the head's index (in neither list), the head's index, or an index of the tail
    rcases Nat.lt_trichotomy j i with hlt | rfl | hgt
    · have h1 : ¬ (i + 1 ≤ j) := by omega
      have h2 : ¬ (i ≤ j) := by omega
      have h3 : j ≠ i := by omega
      split <;> simp [ih, h1, h2, h3]
    · have h1 : ¬ (j + 1 ≤ j) := by omega
      split <;> simp [ih, h1, eq_comm]
      all_goals
        intro e
        omega
    · have e : j - i = (j - (i + 1)) + 1 := by omega
      have h1 : i ≤ j := by omega
      have h2 : i + 1 ≤ j := by omega
      have h3 : j ≠ i := by omega
      rw [e, List.getElem?_cons_succ]
      split <;> simp [ih, h1, h2, h3]

theorem enc_eq (xs : List Nat) (t : Nat) (rest : List Nat) :
    enc xs t ++ rest = Tagged.enc (compute xs t).min ++ ((compute xs t).width ::
      (Tagged.enc (compute xs t).count ++ (slots (compute xs t) xs ++
        (Tagged.enc (compute xs t).exceptionCount ++ (excs (compute xs t) 0 xs ++ rest))))) := by
  simp [enc]

theorem dec_of_parts (mn w cnt ec : Nat) (S E vals : List Nat) (hmn : mn < 2 ^ 64)
    (hcnt : cnt < 2 ^ 32) (hw1 : 1 ≤ w) (hw8 : w ≤ 8) (hec : ec < 2 ^ 32)
    (hS : S.length = cnt * w)
    (hread : readSlots cnt mn w (S ++ (Tagged.enc ec ++ E)) = some vals) :
    dec (Tagged.enc mn ++ (w :: (Tagged.enc cnt ++ (S ++ (Tagged.enc ec ++ E)))))
      = applyExcs ec vals E := by
  unfold dec
  rw [Tagged.get_enc _ hmn]
  simp only []
  rw [List.drop_left]
  simp only []
  rw [Tagged.get_enc _ (by omega : cnt < 2 ^ 64)]
  simp only []
  rw [Nat.mod_eq_of_lt hcnt, if_neg (by omega), List.drop_left, hread]
  simp only []
  rw [← hS, List.drop_left, Tagged.get_enc _ (by omega : ec < 2 ^ 64)]
  simp only []
  rw [Nat.mod_eq_of_lt hec, ← List.append_assoc, List.drop_left' (by simp)]

theorem dec_enc (xs : List Nat) (g : Good xs) (t : Nat) (rest : List Nat) :
    dec (enc xs t ++ rest) = some xs := by
  have f := compute_facts xs g t
  obtain ⟨hne, hlen, hlt⟩ := g
  have hmn : (compute xs t).min < 2 ^ 64 := hlt _ f.min_mem
  have hread := readSlots_slots (compute xs t) f.marker_eq xs
    (fun x hx => ⟨f.min_le x hx, hlt x hx, f.sep x hx⟩)
    (Tagged.enc (compute xs t).exceptionCount ++ (excs (compute xs t) 0 xs ++ rest))
  rw [← f.count_eq] at hread
  have hex := f.exc_le
  rw [enc_eq, dec_of_parts _ _ _ _ _ _ _ hmn (by rw [f.count_eq]; exact hlen) f.width_pos
    f.width_le (by omega) (by rw [slots_length, f.count_eq]) hread]
  have := applyExcs_excs (compute xs t) xs hlt [] rest (by simp; omega)
  simp only [List.nil_append, List.length_nil] at this
  rw [f.exc_eq]
  exact this

theorem enc_length (xs : List Nat) (t : Nat) :
    (enc xs t).length = Tagged.len (compute xs t).min + 1 + Tagged.len (compute xs t).count +
      (compute xs t).count * (compute xs t).width + Tagged.len (compute xs t).exceptionCount +
      (excs (compute xs t) 0 xs).length := by
  simp only [enc, List.length_append, List.length_cons, List.length_nil, Tagged.enc_length,
    slots_length, compute_count]

theorem enc_length_le_size (xs : List Nat) (g : Good xs) (t : Nat) :
    (enc xs t).length ≤ size (compute xs t) := by
  have hpos : 0 < xs.length := List.length_pos_iff.mpr g.1
  have h := excs_length_le (compute xs t) xs 0 ((compute xs t).count - 1)
    (by rw [compute_count]; omega)
  rw [← compute_exceptionCount] at h
  rw [enc_length, size]
  omega

theorem enc_length_eq_size_of_no_exc (xs : List Nat) (t : Nat)
    (h : (compute xs t).exceptionCount = 0) : (enc xs t).length = size (compute xs t) := by
  have h' := excs_length_le (compute xs t) xs 0 xs.length (by omega)
  rw [← compute_exceptionCount, h, Nat.zero_mul] at h'
  rw [enc_length, size, h]
  omega

theorem enc_lt (xs : List Nat) (g : Good xs) (t : Nat) : ∀ b ∈ enc xs t, b < 256 := by
  have hw := (compute_facts xs g t).width_le
  intro b hb
  simp only [enc, List.mem_append, List.mem_cons, List.not_mem_nil, or_false] at hb
  rcases hb with ((((hb | hb) | hb) | hb) | hb) | hb
  · exact Tagged.enc_lt _ b hb
  · omega
  · exact Tagged.enc_lt _ b hb
  · exact slots_lt _ _ b hb
  · exact Tagged.enc_lt _ b hb
  · exact excs_lt _ xs 0 b hb

/-- the exception count in the metadata is the number of exception records written, and the
    records are exactly the (index, value) pairs of the values above the threshold -/
theorem exceptionCount_eq_records (xs : List Nat) (t : Nat) :
    (compute xs t).exceptionCount = (excList (compute xs t).thresholdValue 0 xs).length ∧
    excs (compute xs t) 0 xs = (excList (compute xs t).thresholdValue 0 xs).flatMap
      (fun p => Tagged.enc p.1 ++ Tagged.enc p.2) :=
  ⟨by rw [excList_length, compute_exceptionCount], excs_eq_flatMap _ _ _⟩

theorem hdr_min (xs : List Nat) (g : Good xs) (t : Nat) (rest : List Nat) :
    Tagged.get (enc xs t ++ rest) = .ok (compute xs t).min (Tagged.len (compute xs t).min) := by
  have f := compute_facts xs g t
  rw [enc_eq, Tagged.get_enc _ (g.2.2 _ f.min_mem), Tagged.enc_length]

theorem hdr_width (xs : List Nat) (t : Nat) (rest : List Nat) :
    (enc xs t ++ rest).drop (Tagged.len (compute xs t).min) = (compute xs t).width ::
      (Tagged.enc xs.length ++ (slots (compute xs t) xs ++
        (Tagged.enc (compute xs t).exceptionCount ++ (excs (compute xs t) 0 xs ++ rest)))) := by
  rw [enc_eq, List.drop_left' (Tagged.enc_length _), compute_count]

theorem hdr_count (xs : List Nat) (g : Good xs) (t : Nat) (rest : List Nat) :
    Tagged.get ((enc xs t ++ rest).drop (Tagged.len (compute xs t).min + 1))
      = .ok xs.length (Tagged.len xs.length) := by
  have hl := g.2.1
  rw [← List.drop_drop, hdr_width, List.drop_one, List.tail_cons,
    Tagged.get_enc _ (by omega), Tagged.enc_length]

theorem hdr_exceptionCount (xs : List Nat) (g : Good xs) (t : Nat) (rest : List Nat) :
    Tagged.get ((enc xs t ++ rest).drop (Tagged.len (compute xs t).min + 1 +
        Tagged.len xs.length + xs.length * (compute xs t).width))
      = .ok (compute xs t).exceptionCount (Tagged.len (compute xs t).exceptionCount) := by
  have f := compute_facts xs g t
  have hl := g.2.1
  have hex := f.exc_le
  have e : enc xs t ++ rest = (Tagged.enc (compute xs t).min ++ [(compute xs t).width] ++
      Tagged.enc xs.length ++ slots (compute xs t) xs) ++
      (Tagged.enc (compute xs t).exceptionCount ++ (excs (compute xs t) 0 xs ++ rest)) := by
    simp [enc, compute_count]
  rw [e, List.drop_left' (by simp [Tagged.enc_length, slots_length]; omega),
    Tagged.get_enc _ (by omega), Tagged.enc_length]

end Varint.PFOR
