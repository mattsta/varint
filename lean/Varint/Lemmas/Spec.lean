import Varint.Spec.Scalar
import Varint.Lemmas.Tagged
import Varint.Lemmas.Chained
import Varint.Lemmas.Lex
/- model encoders = documented formats -/
namespace Varint

theorem tagged_enc_eq_spec (v : Nat) (hv : v < 2 ^ 64) : Tagged.enc v = Spec.tagged v := by
  unfold Spec.tagged
  rcases Tagged.shape v with ⟨h, -, he⟩ | ⟨h1, h2, -, he⟩ | ⟨h1, h2, -, he⟩ | ⟨h, -, he⟩ <;> rw [he]
  · rw [if_pos h]
  · rw [if_neg (by omega), if_pos h2]
  · rw [if_neg (by omega), if_neg (by omega), if_pos h2]
  · -- the documented thresholds are the powers of 256: in each row the payload width is `extLen v`
    rw [if_neg (by omega), if_neg (by omega), if_neg (by omega), Nat.min_eq_left (extLen_le_8 hv)]
    split
    · rw [extLen_eq_of_lt (k := 2) (by omega) (show v < 256 ^ 3 by omega)]
    split
    · rw [extLen_eq_of_lt (k := 3) (show 256 ^ 3 ≤ v by omega) (show v < 256 ^ 4 by omega)]
    split
    · rw [extLen_eq_of_lt (k := 4) (show 256 ^ 4 ≤ v by omega) (show v < 256 ^ 5 by omega)]
    split
    · rw [extLen_eq_of_lt (k := 5) (show 256 ^ 5 ≤ v by omega) (show v < 256 ^ 6 by omega)]
    split
    · rw [extLen_eq_of_lt (k := 6) (show 256 ^ 6 ≤ v by omega) (show v < 256 ^ 7 by omega)]
    · rw [extLen_eq_of_lt (k := 7) (show 256 ^ 7 ≤ v by omega) (show v < 256 ^ 8 by omega)]

theorem flagged_eq_be7 (k x : Nat) : Chained.flagged k x = (Spec.be7 k x).map (· + 128) := by
  induction k generalizing x with
  | zero => rfl
  | succ k ih =>
    -- flagged (k+1) x = head :: flagged k x ; be7 (k+1) x = be7 k (x/128) ++ [x%128]
    have hsnoc : ∀ k x, Chained.flagged (k + 1) x = Chained.flagged k (x / 128) ++ [x % 128 + 128] := by
      intro k
      induction k with
      | zero => intro x; simp [Chained.flagged]
      | succ k ihk =>
        intro x
        rw [Chained.flagged, ihk x]
        conv => rhs; rw [Chained.flagged]
        simp only [List.cons_append, List.cons.injEq, and_true]
        rw [Nat.div_div_eq_div_mul, Nat.pow_succ, Nat.mul_comm]
    rw [hsnoc, Spec.be7, List.map_append, ih]
    rfl

theorem chained_enc_eq_spec (v : Nat) (hv : v < 2 ^ 64) : Chained.enc v = Spec.chained v := by
  unfold Chained.enc Spec.chained Spec.groups7
  by_cases h : v / 2 ^ 56 % 256 ≠ 0
  · have h2 : ¬ v < 2 ^ 56 := by omega
    rw [if_pos h, if_neg h2, flagged_eq_be7]
  · have h2 : v < 2 ^ 56 := by omega
    rw [if_neg h, if_pos h2]
    have h1 := len7_pos v
    obtain ⟨n, hn⟩ : ∃ n, len7 v = n + 1 := ⟨len7 v - 1, by omega⟩
    rw [hn, Chained.groups_eq, flagged_eq_be7]
    simp

theorem csimple_encAux_spec (fuel i v : Nat) (hf : 9 ≤ i + fuel) (hi : i ≤ 8) (hv : v < 2 ^ (64 - 7 * i)) :
    ChainedSimple.encAux fuel i v =
      (Spec.le7 (min (9 - i) (len7 v) - 1) v).map (· + 128) ++ [v / 128 ^ (min (9 - i) (len7 v) - 1)] := by
  induction fuel generalizing i v with
  | zero => omega
  | succ fuel ih =>
    unfold ChainedSimple.encAux
    by_cases h : v ≥ 128 ∧ i < 8
    · rw [if_pos h]
      have hv' : v / 128 < 2 ^ (64 - 7 * (i + 1)) := by
        have e : 64 - 7 * i = (64 - 7 * (i + 1)) + 7 := by omega
        rw [e, Nat.pow_add] at hv
        omega
      rw [ih (i + 1) (v / 128) (by omega) (by omega) hv']
      have hl : len7 v = 1 + len7 (v / 128) := by
        rw [len7_eq v, if_neg (by omega)]
      have hp := len7_pos (v / 128)
      have e : min (9 - i) (len7 v) - 1 = (min (9 - (i + 1)) (len7 (v / 128)) - 1) + 1 := by omega
      rw [e, Spec.le7, List.map_cons, List.cons_append, Nat.pow_succ, Nat.mul_comm, ← Nat.div_div_eq_div_mul]
    · rw [if_neg h]
      have hv256 : v < 256 := by
        by_cases hv128 : v < 128
        · omega
        · have : i = 8 := by omega
          subst this; simpa using hv
      have hmin : min (9 - i) (len7 v) - 1 = 0 := by
        by_cases hv128 : v < 128
        · rw [len7_eq, if_pos hv128]; omega
        · have : i = 8 := by omega
          subst this; have := len7_pos v; omega
      rw [hmin]
      simp [Spec.le7, Nat.mod_eq_of_lt hv256]

theorem csimple_enc_eq_spec (v : Nat) (hv : v < 2 ^ 64) : ChainedSimple.enc v = Spec.leb128cap9 v := by
  unfold ChainedSimple.enc Spec.leb128cap9 Spec.groups7
  rw [csimple_encAux_spec 9 0 v (by omega) (by omega) (by simpa using hv)]
  have hp := len7_pos v
  by_cases h : v < 2 ^ 56
  · rw [if_pos h]
    have h8 := len7_le_of_lt (v := v) (k := 8) (by omega) (by
      have : (128 : Nat) ^ 8 = 2 ^ 56 := by rfl
      omega)
    have e : min (9 - 0) (len7 v) - 1 = len7 v - 1 := by omega
    rw [e]
  · rw [if_neg h]
    have h9 : 9 ≤ len7 v := by
      apply Nat.le_of_not_lt
      intro hlt
      have := lt_pow_len7 v
      have h2 : 128 ^ len7 v ≤ 128 ^ 8 := Nat.pow_le_pow_right (by omega) (by omega)
      have : (128 : Nat) ^ 8 = 2 ^ 56 := by rfl
      omega
    have e : min (9 - 0) (len7 v) - 1 = 8 := by omega
    rw [e]

end Varint
