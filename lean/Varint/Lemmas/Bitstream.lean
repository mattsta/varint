import Varint.Model.Bitstream
import Varint.Lemmas.BitField
/- Lemmas about the bitstream model. Offsets are decomposed as off = i*W + o with o < W. -/
namespace Varint.Bitstream
open Varint.BF

theorem div_decomp (W i o : Nat) (hW : 0 < W) (ho : o < W) : (i * W + o) / W = i ∧ (i * W + o) % W = o := by
  constructor
  · rw [Nat.mul_comm, Nat.mul_add_div hW, Nat.div_eq_of_lt ho, Nat.add_zero]
  · rw [Nat.mul_comm, Nat.mul_add_mod, Nat.mod_eq_of_lt ho]

/-- bit `r` (counted from the most significant bit) of word `j` of the stream -/
def bitAt (W : Nat) (ws : List Nat) (j r : Nat) : Bool := (ws.getD j 0).testBit (W - 1 - r)

theorem getD_set_self (ws : List Nat) (i x : Nat) (h : i < ws.length) : (ws.set i x).getD i 0 = x := by
  rw [List.getD_eq_getElem?_getD, List.getElem?_set_self h, Option.getD_some]

theorem getD_set_ne (ws : List Nat) (i j x : Nat) (h : i ≠ j) : (ws.set i x).getD j 0 = ws.getD j 0 := by
  rw [List.getD_eq_getElem?_getD, List.getElem?_set_ne h, List.getD_eq_getElem?_getD]

theorem or_shift_split (v hb : Nat) : (v >>> hb) <<< hb ||| (v &&& mask hb) = v := by
  apply Nat.eq_of_testBit_eq
  intro j
  rw [Nat.testBit_or, Nat.testBit_shiftLeft, Nat.testBit_shiftRight, Nat.testBit_and, testBit_mask]
  by_cases h : hb ≤ j
  · have : ¬ j < hb := by omega
    simp [h, this]
  · have : j < hb := by omega
    simp [h, this]

theorem shiftRight_spill (v n high : Nat) (hv : v < 2 ^ n) (h : high ≤ n) : v >>> (n - high) < 2 ^ high :=
  shiftRight_lt v n (n - high) hv (by omega)

/-- every word of the stream after a write: word `i` gets the field (or, when the field crosses, its upper
    `W - o` bits), word `i + 1` the spilled lower bits, every other word is as before -/
theorem getD_set (W i o n v : Nat) (ws : List Nat) (hW : 0 < W) (ho : o < W)
    (hlen : (if n ≤ W - o then i else i + 1) < ws.length) (j : Nat) :
    (set W ws (i * W + o) n v).getD j 0 =
      if n ≤ W - o then
        if j = i then insert (ws.getD i 0) (W - o - n) n v else ws.getD j 0
      else
        if j = i then insert (ws.getD i 0) 0 (W - o) (v >>> (n - (W - o)))
        else if j = i + 1 then insert (ws.getD (i + 1) 0) (W - (n - (W - o))) (n - (W - o)) (v &&& mask (n - (W - o)))
        else ws.getD j 0 := by
  obtain ⟨hd, hm⟩ := div_decomp W i o hW ho
  unfold set
  simp only [hd, hm]
  by_cases hc : n ≤ W - o
  · rw [if_pos hc] at hlen
    rw [if_pos hc, if_pos hc]
    by_cases hji : j = i
    · rw [if_pos hji, hji, getD_set_self _ _ _ hlen]
    · rw [if_neg hji, getD_set_ne _ _ _ _ (Ne.symm hji)]
  · rw [if_neg hc] at hlen
    rw [if_neg hc, if_neg hc]
    by_cases hji : j = i
    · rw [if_pos hji, hji, getD_set_ne _ _ _ _ (by omega), getD_set_self _ _ _ (by omega)]
    · rw [if_neg hji]
      by_cases hj1 : j = i + 1
      · rw [if_pos hj1, hj1, getD_set_self _ _ _ (by simpa using hlen), getD_set_ne _ _ _ _ (by omega)]
      · rw [if_neg hj1, getD_set_ne _ _ _ _ (Ne.symm hj1), getD_set_ne _ _ _ _ (Ne.symm hji)]

theorem get_set (W i o n v : Nat) (ws : List Nat) (hW : 0 < W) (ho : o < W) (hv : v < 2 ^ n)
    (hlen : (if n ≤ W - o then i else i + 1) < ws.length) :
    get W (set W ws (i * W + o) n v) (i * W + o) n = v := by
  obtain ⟨hd, hm⟩ := div_decomp W i o hW ho
  unfold get
  simp only [hd, hm, getD_set W i o n v ws hW ho hlen]
  by_cases hc : n ≤ W - o
  · rw [if_pos hc, if_pos hc, if_pos trivial, extract_insert _ _ _ _ hv]
  · rw [if_neg hc, if_neg hc, if_neg hc, if_pos trivial, if_neg (show ¬ i + 1 = i by omega), if_pos trivial,
      extract_insert _ _ _ _ (shiftRight_spill v n (W - o) hv (by omega)), extract_insert _ _ _ _ (and_mask_lt _ _),
      or_shift_split]

theorem set_other_words (W off n v : Nat) (ws : List Nat) (j : Nat)
    (hj : j ≠ off / W ∧ (n ≤ W - off % W ∨ j ≠ off / W + 1)) :
    (set W ws off n v).getD j 0 = ws.getD j 0 ∧ (set W ws off n v).length = ws.length := by
  unfold set
  simp only []
  by_cases hc : n ≤ W - off % W
  · rw [if_pos hc]
    exact ⟨getD_set_ne _ _ _ _ (Ne.symm hj.1), by simp⟩
  · rw [if_neg hc]
    have h2 : j ≠ off / W + 1 := by
      rcases hj.2 with h | h
      · exact absurd h hc
      · exact h
    exact ⟨by rw [getD_set_ne _ _ _ _ (Ne.symm h2), getD_set_ne _ _ _ _ (Ne.symm hj.1)], by simp⟩

/-- bit `r` of word `j` is stream position `j*W + r` -/
theorem bit_outside (W i o n v : Nat) (ws : List Nat) (j r : Nat) (hW : 0 < W) (ho : o < W) (hr : r < W)
    (hnW : n ≤ W) (hv : v < 2 ^ n)
    (hlen : (if n ≤ W - o then i else i + 1) < ws.length)
    (hout : j * W + r < i * W + o ∨ i * W + o + n ≤ j * W + r) :
    bitAt W (set W ws (i * W + o) n v) j r = bitAt W ws j r := by
  unfold bitAt
  rw [getD_set W i o n v ws hW ho hlen]
  split
  · split
    · subst j
      exact testBit_insert_outside _ _ _ _ _ hv (by omega)
    · rfl
  · split
    · subst j
      exact testBit_insert_outside _ _ _ _ _ (shiftRight_spill v n (W - o) hv (by omega)) (by omega)
    · split
      · subst j
        rw [Nat.succ_mul] at hout
        exact testBit_insert_outside _ _ _ _ _ (and_mask_lt _ _) (by omega)
      · rfl

theorem set_words_lt (W i o n v : Nat) (ws : List Nat) (hW : 0 < W) (ho : o < W) (hnW : n ≤ W)
    (hv : v < 2 ^ n) (hws : ∀ j, ws.getD j 0 < 2 ^ W) (j : Nat)
    (hlen : (if n ≤ W - o then i else i + 1) < ws.length) :
    (set W ws (i * W + o) n v).getD j 0 < 2 ^ W := by
  rw [getD_set W i o n v ws hW ho hlen]
  split
  · split
    · exact insert_lt _ _ _ _ _ (hws _) hv (by omega)
    · exact hws j
  · split
    · exact insert_lt _ _ _ _ _ (hws _) (shiftRight_spill v n (W - o) hv (by omega)) (by omega)
    · split
      · exact insert_lt _ _ _ _ _ (hws _) (and_mask_lt _ _) (by omega)
      · exact hws j

end Varint.Bitstream
