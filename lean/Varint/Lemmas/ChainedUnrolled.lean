import Varint.Model.ChainedUnrolled
import Varint.Lemmas.Chained
/-
  The literal transcription of the unrolled sqlite3 reader (`ChainedU.getVarint`,
  `ChainedU.getVarint32`) equals the format-level reader (`Chained.dec`, `Chained.dec32`)
  on every byte string.
-/
namespace Varint.ChainedU

/-- `x & 0x7f` -/
theorem and_7f (n : Nat) : n &&& 0x7f = n % 128 := Nat.and_two_pow_sub_one_eq_mod n 7

/-- `x & SQLITE_MAX_U32` -/
theorem and_max32 (n : Nat) : n &&& 4294967295 = n % 4294967296 :=
  Nat.and_two_pow_sub_one_eq_mod n 32

/-- `|` acts separately below and above bit `k` -/
theorem or_mul_add (k a a' X Y : Nat) (ha : a < 2 ^ k) (ha' : a' < 2 ^ k) :
    (a + 2 ^ k * X) ||| (a' + 2 ^ k * Y) = (a ||| a') + 2 ^ k * (X ||| Y) := by
  have hk : 0 < 2 ^ k := Nat.two_pow_pos k
  rw [← Nat.div_add_mod' ((a + 2 ^ k * X) ||| (a' + 2 ^ k * Y)) (2 ^ k), Nat.or_div_two_pow,
    Nat.or_mod_two_pow, Nat.add_mul_div_left _ _ hk, Nat.add_mul_div_left _ _ hk,
    Nat.add_mul_mod_self_left, Nat.add_mul_mod_self_left, Nat.div_eq_of_lt ha, Nat.div_eq_of_lt ha',
    Nat.mod_eq_of_lt ha, Nat.mod_eq_of_lt ha', Nat.zero_add, Nat.zero_add, Nat.mul_comm, Nat.add_comm]

/-- `&` acts separately below and above bit `k` -/
theorem and_mul_add (k a a' X Y : Nat) (ha : a < 2 ^ k) (ha' : a' < 2 ^ k) :
    (a + 2 ^ k * X) &&& (a' + 2 ^ k * Y) = (a &&& a') + 2 ^ k * (X &&& Y) := by
  have hk : 0 < 2 ^ k := Nat.two_pow_pos k
  rw [← Nat.div_add_mod' ((a + 2 ^ k * X) &&& (a' + 2 ^ k * Y)) (2 ^ k), Nat.and_div_two_pow,
    Nat.and_mod_two_pow, Nat.add_mul_div_left _ _ hk, Nat.add_mul_div_left _ _ hk,
    Nat.add_mul_mod_self_left, Nat.add_mul_mod_self_left, Nat.div_eq_of_lt ha, Nat.div_eq_of_lt ha',
    Nat.mod_eq_of_lt ha, Nat.mod_eq_of_lt ha', Nat.zero_add, Nat.zero_add, Nat.mul_comm, Nat.add_comm]

/-- `|` of a multiple of `2 ^ k` with something below `2 ^ k` -/
theorem or_low (k X p : Nat) (hp : p < 2 ^ k) : 2 ^ k * X ||| p = p + 2 ^ k * X := by
  have h := or_mul_add k 0 p X 0 (Nat.two_pow_pos k) hp
  rwa [Nat.zero_or, Nat.or_zero, Nat.mul_zero, Nat.add_zero, Nat.zero_add] at h

theorem and_7f_of_lt {a : Nat} (ha : a < 128) : a &&& 127 = a := by
  rw [and_7f]; exact Nat.mod_eq_of_lt ha

/-- A word laid out in seven-bit slots `a b c d` from bit 0 upwards, `e` holding bits 28 and up:
    the unrolled reader keeps every payload group in one such slot of `a`, `b` or `s`. -/
def w (e d c b a : Nat) : Nat := a + 128 * (b + 128 * (c + 128 * (d + 128 * e)))

theorem w_or {e d c b a e' d' c' b' a' : Nat} (ha : a < 128) (ha' : a' < 128) (hb : b < 128)
    (hb' : b' < 128) (hc : c < 128) (hc' : c' < 128) (hd : d < 128) (hd' : d' < 128) :
    w e d c b a ||| w e' d' c' b' a' = w (e ||| e') (d ||| d') (c ||| c') (b ||| b') (a ||| a') := by
  unfold w
  rw [or_mul_add 7 _ _ _ _ ha ha', or_mul_add 7 _ _ _ _ hb hb', or_mul_add 7 _ _ _ _ hc hc',
    or_mul_add 7 _ _ _ _ hd hd']

/-- `x |= *p` for an unflagged byte -/
theorem w_or_byte {e d c b x : Nat} (hx : x < 128) : w e d c b 0 ||| x = w e d c b x := by
  unfold w; rw [Nat.zero_add]; exact or_low 7 _ x hx

/-- `x |= *p` for a flagged byte `128 + x` -/
theorem w_or_flagged {e d c x : Nat} (hx : x < 128) : w e d c 0 0 ||| (128 + x) = w e d c 1 x := by
  unfold w
  rw [show 128 + x = x + 2 ^ 7 * (1 + 2 ^ 7 * 0) by omega, or_mul_add 7 _ _ _ _ (by omega) hx,
    or_mul_add 7 _ _ _ _ (by omega) (by omega), Nat.zero_or, Nat.zero_or, Nat.or_zero]

/-- `x & SLOT_2_0` -/
theorem w_slot20 {e d c b a : Nat} (ha : a < 128) (hb : b < 128) (hc : c < 128) (hd : d < 128) :
    w e d c b a &&& 0x001fc07f = w 0 0 c 0 a := by
  rw [show (0x001fc07f : Nat) = w 0 0 127 0 127 from rfl]
  unfold w
  rw [and_mul_add 7 _ _ _ _ ha (by omega), and_mul_add 7 _ _ _ _ hb (by omega),
    and_mul_add 7 _ _ _ _ hc (by omega), and_mul_add 7 _ _ _ _ hd (by omega), and_7f_of_lt ha,
    and_7f_of_lt hc, Nat.and_zero, Nat.and_zero, Nat.and_zero]

/-- `x & SLOT_4_2_0` -/
theorem w_slot420 {e d c b a : Nat} (ha : a < 128) (hb : b < 128) (hc : c < 128) (hd : d < 128)
    (he : e < 16) : w e d c b a &&& 0xf01fc07f = w e 0 c 0 a := by
  rw [show (0xf01fc07f : Nat) = w 15 0 127 0 127 from rfl]
  unfold w
  rw [and_mul_add 7 _ _ _ _ ha (by omega), and_mul_add 7 _ _ _ _ hb (by omega),
    and_mul_add 7 _ _ _ _ hc (by omega), and_mul_add 7 _ _ _ _ hd (by omega), and_7f_of_lt ha,
    and_7f_of_lt hc, Nat.and_zero, Nat.and_zero, Nat.and_two_pow_sub_one_eq_mod e 4,
    Nat.mod_eq_of_lt he]

/-- the flag test `x & 0x80` looks at bit 0 of slot `b` -/
theorem w_flag {e d c b a : Nat} (ha : a < 128) (hb : b < 128) : w e d c b a &&& 0x80 = 128 * (b % 2) := by
  rw [show (0x80 : Nat) = w 0 0 0 1 0 from rfl]
  unfold w
  rw [and_mul_add 7 _ _ _ _ ha (by omega), and_mul_add 7 _ _ _ _ hb (by omega), Nat.and_zero,
    Nat.and_zero, Nat.and_two_pow_sub_one_eq_mod b 1]
  omega

theorem w_shl7 {e d c b a : Nat} (ha : a < 128) (hb : b < 128) (hc : c < 128) :
    w e d c b a * 128 % 4294967296 = w (d % 16) c b a 0 := by
  unfold w; omega

theorem w_shl14 {e d c b a : Nat} (ha : a < 128) (hb : b < 128) :
    w e d c b a * 16384 % 4294967296 = w (c % 16) b a 0 0 := by
  unfold w; omega

/-- `((uint32_t)p[i]) << 14` for a flagged byte -/
theorem flagged_shl14 {x : Nat} (hx : x < 128) : (128 + x) * 16384 % 4294967296 = w 0 1 x 0 0 := by
  unfold w; omega

theorem w_lt {e d c b a : Nat} (ha : a < 128) (hb : b < 128) (hc : c < 128) (hd : d < 128)
    (he : e < 16) : w e d c b a < 4294967296 := by
  unfold w; omega

/-- `((uint64_t)s) << 32 | a` -/
theorem hi_or {s y : Nat} (hy : y < 4294967296) :
    s * 4294967296 % 18446744073709551616 ||| y = y + 4294967296 * (s % 4294967296) := by
  rw [show s * 4294967296 % 18446744073709551616 = 2 ^ 32 * (s % 4294967296) by omega]
  exact or_low 32 _ y hy

theorem mod16_lt16 (x : Nat) : x % 16 < 16 := by omega

/-- `(p[i] & 0x7f) << 7` for a flagged byte -/
theorem flagged_and7f_shl7 {x : Nat} (hx : x < 128) :
    (128 + x &&& 127) * 128 % 4294967296 = w 0 0 0 x 0 := by
  rw [and_7f]; unfold w; omega


/-- The nine-byte path: the last byte keeps all eight bits, so `a` and `b` are shifted by 15 and 8 instead
    of 14 and 7 and become `256 * w …` with `p[8]` below; the bits of `p[4]` that `a << 15` pushes out of the
    32-bit word reach `s` through the second read, `p[-4]`. -/
theorem ninth_byte {d0 d1 d2 d3 d4 d5 d6 d7 p8 : Nat} (h0 : d0 < 128) (h1 : d1 < 128) (h2 : d2 < 128)
    (h3 : d3 < 128) (h4 : d4 < 128) (h5 : d5 < 128) (h6 : d6 < 128) (h7 : d7 < 128) (h8 : p8 < 256) :
    (w 0 d0 d1 d2 d3 * 16 % 4294967296 ||| (128 + d4 &&& 127) / 8) * 4294967296 % 18446744073709551616 |||
        (w 0 0 d4 0 d6 * 32768 % 4294967296 ||| p8 ||| w 0 0 d5 0 d7 * 256 % 4294967296)
      = (((((((d0 * 128 + d1) * 128 + d2) * 128 + d3) * 128 + d4) * 128 + d5) * 128 + d6) * 128 + d7) * 256
        + p8 := by
  have ea : w 0 0 d4 0 d6 * 32768 % 4294967296 ||| p8 ||| w 0 0 d5 0 d7 * 256 % 4294967296
      = p8 + 256 * w 0 (d4 % 8) d5 d6 d7 := by
    rw [show w 0 0 d4 0 d6 * 32768 % 4294967296 = 2 ^ 8 * w 0 (d4 % 8) 0 d6 0 by unfold w; omega,
      show w 0 0 d5 0 d7 * 256 % 4294967296 = 0 + 2 ^ 8 * w 0 0 d5 0 d7 by unfold w; omega,
      or_low 8 _ p8 h8, or_mul_add 8 _ _ _ _ h8 (by omega),
      w_or (by omega) h7 h6 (by omega) (by omega) h5 (by omega) (by omega)]
    simp only [Nat.or_zero, Nat.zero_or, Nat.reducePow]
  have es : w 0 d0 d1 d2 d3 * 16 % 4294967296 ||| (128 + d4 &&& 127) / 8
      = d4 / 8 + 16 * w 0 d0 d1 d2 d3 := by
    rw [show w 0 d0 d1 d2 d3 * 16 % 4294967296 = 2 ^ 4 * w 0 d0 d1 d2 d3 by unfold w; omega,
      and_7f, show (128 + d4) % 128 = d4 by omega]
    exact or_low 4 _ _ (by omega)
  rw [ea, es, hi_or (by unfold w; omega)]
  unfold w; omega

/-! ### the 64-bit reader

  One walk down the unrolled C.  The `let`s are substituted first, so that every word the program
  holds is an expression in the bytes read so far; byte after byte: case on the list (a missing
  byte makes both sides `none`) and on the flag of the byte, write a flagged byte as `128 + d`,
  and let `simp` push the slot lemmas through: each returning branch then shows its result as
  one slot word over the payloads `d_i`, which `omega` compares with the reader's `acc * 128 + b`.
  `Option.bind_some` is applied with `rw`: as a `simp` (`rfl`) lemma it leaves the kernel to
  evaluate `(some p).bind f` against an `if x &&& 128 = 0 …`, which it does not survive. -/

/-- The literal transcription of `varintChainedGetVarint` computes exactly the format-level
    reader, on every byte string (value AND length AND out-of-bounds behaviour). -/
theorem getVarint_eq_dec (buf : List Nat) (hb : ∀ b ∈ buf, b < 256) :
    getVarint buf = Chained.dec buf := by
  unfold getVarint Chained.dec
  simp -zeta only [shl32, shl64, shr, SLOT_2_0, SLOT_4_2_0, Nat.reducePow, Option.bind_eq_bind,
    Option.pure_def]
  conv => zeta
  simp only [Nat.reduceAdd, Nat.reduceSub]
  rcases buf with _ | ⟨p0, t⟩
  · rfl
  have lt0 : p0 < 256 := hb p0 (by simp)
  simp only [List.getElem?_cons_zero, List.getElem?_cons_succ, Option.bind_some, Chained.decAux]
  by_cases h0 : p0 < 128
  · simp only [if_pos h0, Nat.reduceEqDiff, if_false, Nat.zero_mul, Nat.zero_add]
  obtain ⟨d0, rfl⟩ : ∃ d, p0 = 128 + d := ⟨p0 - 128, by omega⟩
  have hd0 : d0 < 128 := by omega
  simp only [flagged_shl14, flagged_and7f_shl7, Nat.reduceEqDiff, if_false, Nat.add_sub_cancel_left,
    h0, hd0, Nat.zero_mul, Nat.zero_add]
  clear lt0 h0
  rcases t with _ | ⟨p1, t⟩
  · rfl
  have lt1 : p1 < 256 := hb p1 (by simp)
  simp only [List.getElem?_cons_zero, List.getElem?_cons_succ, Option.bind_some, Chained.decAux]
  by_cases h1 : p1 < 128
  · simp only [w_or_byte, Nat.reduceEqDiff, Nat.reduceAdd, if_false, if_true, Option.some.injEq,
        Prod.mk.injEq, and_true, h1]
    unfold w; omega
  obtain ⟨d1, rfl⟩ : ∃ d, p1 = 128 + d := ⟨p1 - 128, by omega⟩
  have hd1 : d1 < 128 := by omega
  simp only [flagged_shl14, flagged_and7f_shl7, Nat.reduceEqDiff, Nat.reduceAdd, if_false,
    Nat.add_sub_cancel_left, h1, hd1]
  clear lt1 h1
  rcases t with _ | ⟨p2, t⟩
  · rfl
  have lt2 : p2 < 256 := hb p2 (by simp)
  rw [List.getElem?_cons_zero, Option.bind_some]
  simp only [List.getElem?_cons_succ, Chained.decAux]
  by_cases h2 : p2 < 128
  · simp only [w_or_byte, w_flag, w_slot20, w_shl7, w_shl14, w_or, Nat.or_zero, Nat.zero_or,
        Nat.reduceMod, Nat.reduceMul, Nat.reduceEqDiff, Nat.reduceLT, Nat.reduceAdd, if_false, if_true,
        Option.some.injEq, Prod.mk.injEq, and_true, h2, hd0, hd1]
    unfold w; omega
  obtain ⟨d2, rfl⟩ : ∃ d, p2 = 128 + d := ⟨p2 - 128, by omega⟩
  have hd2 : d2 < 128 := by omega
  simp only [w_or_flagged, w_flag, w_slot20, w_shl7, w_shl14, w_or, Nat.or_zero, Nat.zero_or,
    Nat.reduceMod, Nat.reduceMul, Nat.reduceEqDiff, Nat.reduceLT, Nat.reduceAdd, if_false,
    Nat.add_sub_cancel_left, h2, hd2, hd0, hd1]
  clear lt2 h2
  rcases t with _ | ⟨p3, t⟩
  · rfl
  have lt3 : p3 < 256 := hb p3 (by simp)
  rw [List.getElem?_cons_zero, Option.bind_some]
  simp only [List.getElem?_cons_succ, Chained.decAux]
  by_cases h3 : p3 < 128
  · simp only [w_or_byte, w_flag, w_slot20, w_shl7, w_shl14, w_or, Nat.or_zero, Nat.zero_or,
        Nat.reduceMod, Nat.reduceMul, Nat.reduceEqDiff, Nat.reduceLT, Nat.reduceAdd, if_false, if_true,
        Option.some.injEq, Prod.mk.injEq, and_true, h3, hd0, hd1, hd2]
    unfold w; omega
  obtain ⟨d3, rfl⟩ : ∃ d, p3 = 128 + d := ⟨p3 - 128, by omega⟩
  have hd3 : d3 < 128 := by omega
  simp only [w_or_flagged, w_flag, w_slot20, w_shl7, w_shl14, w_or, Nat.or_zero, Nat.zero_or,
    Nat.reduceMod, Nat.reduceMul, Nat.reduceEqDiff, Nat.reduceLT, Nat.reduceAdd, if_false,
    Nat.add_sub_cancel_left, h3, hd3, hd0, hd1, hd2]
  clear lt3 h3
  rcases t with _ | ⟨p4, t⟩
  · rfl
  have lt4 : p4 < 256 := hb p4 (by simp)
  rw [List.getElem?_cons_zero, Option.bind_some]
  simp only [List.getElem?_cons_succ, Chained.decAux]
  by_cases h4 : p4 < 128
  · simp only [w_or_byte, w_flag, w_slot20, w_shl7, w_shl14, w_or, w_lt, hi_or, Nat.or_zero,
        Nat.zero_or, Nat.reduceMod, Nat.reduceMul, Nat.reduceEqDiff, Nat.reduceLT, Nat.reduceAdd,
        mod16_lt16, if_false, if_true, Option.some.injEq, Prod.mk.injEq, and_true, h4, hd1, hd2, hd3]
    unfold w; omega
  obtain ⟨d4, rfl⟩ : ∃ d, p4 = 128 + d := ⟨p4 - 128, by omega⟩
  have hd4 : d4 < 128 := by omega
  simp only [w_or_flagged, w_flag, w_slot20, w_shl7, w_shl14, w_or, Nat.or_zero, Nat.zero_or,
    Nat.reduceMod, Nat.reduceMul, Nat.reduceEqDiff, Nat.reduceLT, Nat.reduceAdd, if_false,
    Nat.add_sub_cancel_left, h4, hd4, hd1, hd2, hd3]
  clear lt4 h4
  rcases t with _ | ⟨p5, t⟩
  · rfl
  have lt5 : p5 < 256 := hb p5 (by simp)
  rw [List.getElem?_cons_zero, Option.bind_some]
  simp only [List.getElem?_cons_succ, Chained.decAux]
  by_cases h5 : p5 < 128
  · simp only [w_or_byte, w_flag, w_slot20, w_shl7, w_shl14, w_or, w_lt, hi_or, Nat.or_zero,
        Nat.zero_or, Nat.reduceMod, Nat.reduceMul, Nat.reduceEqDiff, Nat.reduceLT, Nat.reduceAdd,
        mod16_lt16, if_false, if_true, Option.some.injEq, Prod.mk.injEq, and_true, h5, hd2, hd3, hd4]
    unfold w; omega
  obtain ⟨d5, rfl⟩ : ∃ d, p5 = 128 + d := ⟨p5 - 128, by omega⟩
  have hd5 : d5 < 128 := by omega
  simp only [w_or_flagged, w_flag, w_slot20, w_shl7, w_shl14, w_or, Nat.or_zero, Nat.zero_or,
    Nat.reduceMod, Nat.reduceMul, Nat.reduceEqDiff, Nat.reduceLT, Nat.reduceAdd, if_false,
    Nat.add_sub_cancel_left, h5, hd5, hd2, hd3, hd4]
  clear lt5 h5
  rcases t with _ | ⟨p6, t⟩
  · rfl
  have lt6 : p6 < 256 := hb p6 (by simp)
  rw [List.getElem?_cons_zero, Option.bind_some]
  simp only [List.getElem?_cons_succ, Chained.decAux]
  by_cases h6 : p6 < 128
  · simp only [w_or_byte, w_flag, w_slot20, w_slot420, w_shl7, w_or, w_lt, hi_or, Nat.or_zero,
        Nat.zero_or, Nat.reduceMod, Nat.reduceMul, Nat.reduceEqDiff, Nat.reduceLT, Nat.reduceAdd,
        mod16_lt16, if_false, if_true, Option.some.injEq, Prod.mk.injEq, and_true, h6, hd3, hd4, hd5]
    unfold w; omega
  obtain ⟨d6, rfl⟩ : ∃ d, p6 = 128 + d := ⟨p6 - 128, by omega⟩
  have hd6 : d6 < 128 := by omega
  simp only [w_or_flagged, w_flag, w_slot20, w_slot420, w_shl7, w_or, w_lt, hi_or, Nat.or_zero,
    Nat.zero_or, Nat.reduceMod, Nat.reduceMul, Nat.reduceEqDiff, Nat.reduceLT, Nat.reduceAdd,
    mod16_lt16, if_false, Nat.add_sub_cancel_left, h6, hd6, hd3, hd4, hd5]
  clear lt6 h6
  rcases t with _ | ⟨p7, t⟩
  · rfl
  have lt7 : p7 < 256 := hb p7 (by simp)
  rw [List.getElem?_cons_zero, Option.bind_some]
  simp only [List.getElem?_cons_succ, Chained.decAux]
  by_cases h7 : p7 < 128
  · simp only [w_or_byte, w_flag, w_slot20, w_slot420, w_or, w_lt, hi_or, Nat.or_zero, Nat.zero_or,
        Nat.reduceMod, Nat.reduceMul, Nat.reduceEqDiff, Nat.reduceLT, Nat.reduceAdd, mod16_lt16,
        if_false, if_true, Option.some.injEq, Prod.mk.injEq, and_true, h7, hd4, hd5, hd6]
    unfold w; omega
  obtain ⟨d7, rfl⟩ : ∃ d, p7 = 128 + d := ⟨p7 - 128, by omega⟩
  have hd7 : d7 < 128 := by omega
  simp only [w_or_flagged, w_flag, w_slot20, w_slot420, w_or, w_lt, hi_or, Nat.or_zero, Nat.zero_or,
    Nat.reduceMod, Nat.reduceMul, Nat.reduceEqDiff, Nat.reduceLT, Nat.reduceAdd, mod16_lt16,
    if_false, Nat.add_sub_cancel_left, h7, hd7, hd4, hd5, hd6]
  clear lt7 h7
  -- byte 8, all eight bits of it, and `p[-4]` again
  rcases t with _ | ⟨p8, t⟩
  · rfl
  have lt8 : p8 < 256 := hb p8 (by simp)
  rw [List.getElem?_cons_zero, Option.bind_some, Option.bind_some]
  simp only [Chained.decAux, if_true]
  rw [ninth_byte hd0 hd1 hd2 hd3 hd4 hd5 hd6 hd7 lt8]

/-- Round trip of the literal reader with the encoder model (from `Chained.dec_enc`). -/
theorem getVarint_enc (v : Nat) (hv : v < 2 ^ 64) (rest : List Nat) (hr : ∀ b ∈ rest, b < 256) :
    getVarint (Chained.enc v ++ rest) = some (v, (Chained.enc v).length) := by
  rw [getVarint_eq_dec _ (List.forall_mem_append.2 ⟨Chained.enc_lt v, hr⟩)]
  exact Chained.dec_enc v hv rest

theorem decAux_len_le (fuel i acc : Nat) (bs : List Nat) (v l : Nat) (hi : i ≤ 8)
    (h : Chained.decAux fuel i acc bs = some (v, l)) : l ≤ 9 := by
  induction fuel generalizing i acc bs with
  | zero => simp [Chained.decAux] at h
  | succ fuel ih =>
    cases bs with
    | nil => simp [Chained.decAux] at h
    | cons b bs =>
      simp only [Chained.decAux] at h
      split at h
      · simp only [Option.some.injEq, Prod.mk.injEq] at h; omega
      · split at h
        · simp only [Option.some.injEq, Prod.mk.injEq] at h; omega
        · exact ih (i + 1) _ bs (by omega) h

theorem dec_len_le (bs : List Nat) (v l : Nat) (h : Chained.dec bs = some (v, l)) : l ≤ 9 :=
  decAux_len_le 9 0 0 bs v l (by omega) h

/-- the `#if 1 { … }` tail of `varintChainedGetVarint32`: clamp the 64-bit result -/
theorem clamp_eq (o : Option (Nat × Nat)) (hl : ∀ v l, o = some (v, l) → l ≤ 9) :
    (o.bind fun x =>
        have n := x.snd % 256
        if x.fst % 4294967296 ≠ x.fst then some (4294967295, n) else some (x.fst % 4294967296, n))
      = Option.map (fun x => (if x.fst ≥ 2 ^ 32 then 2 ^ 32 - 1 else x.fst, x.snd)) o := by
  cases o with
  | none => rfl
  | some x =>
    obtain ⟨v, l⟩ := x
    have := hl v l rfl
    simp only [Option.bind_some, Option.map_some, Nat.reducePow, Nat.reduceSub]
    have e : l % 256 = l := by omega
    by_cases hv : v ≥ 4294967296
    · rw [if_pos (by omega), if_pos hv, e]
    · rw [if_neg (by omega), if_neg hv, e]
      have : v % 4294967296 = v := by omega
      rw [this]

theorem and_80_of_lt {p : Nat} (hp : p < 128) : p &&& 0x80 = 0 := by
  have h := w_flag (e := 0) (d := 0) (c := 0) (b := 0) hp (by omega)
  rwa [show w 0 0 0 0 p = p by unfold w; omega] at h

theorem and_80_flagged {d : Nat} (hd : d < 128) : (128 + d) &&& 0x80 = 128 := by
  have h := w_flag (e := 0) (d := 0) (c := 0) (b := 1) hd (by omega)
  rwa [show w 0 0 0 1 d = 128 + d by unfold w; omega] at h

theorem getVarint32Fn_eq_dec32 (p0 : Nat) (t : List Nat) (h0 : 128 ≤ p0)
    (hb : ∀ b ∈ p0 :: t, b < 256) : getVarint32Fn (p0 :: t) = Chained.dec32 (p0 :: t) := by
  have lt0 : p0 < 256 := hb p0 (by simp)
  obtain ⟨d0, rfl⟩ : ∃ d, p0 = 128 + d := ⟨p0 - 128, by omega⟩
  have hd0 : d0 < 128 := by omega
  have h0' : ¬ 128 + d0 < 128 := by omega
  unfold getVarint32Fn
  simp -zeta only [shl32, u8, u32, SQLITE_MAX_U32, Nat.reducePow, Nat.reduceMul, Nat.reduceMod,
    Nat.reduceOr, Nat.reduceSub, Option.bind_eq_bind, Option.pure_def, and_max32]
  conv => zeta
  simp only [Nat.reduceAdd, Nat.reduceSub, List.drop_zero, List.getElem?_cons_zero,
    List.getElem?_cons_succ, Option.bind_some]
  rcases t with _ | ⟨p1, t⟩
  · simp only [List.getElem?_nil, Option.bind_none, Chained.dec32, Chained.dec, Chained.decAux,
        Option.map_none, Nat.zero_mul, Nat.zero_add, h0', Nat.reduceEqDiff, if_false]
  have lt1 : p1 < 256 := hb p1 (by simp)
  rw [List.getElem?_cons_zero, Option.bind_some]
  simp only [List.getElem?_cons_succ]
  by_cases h1 : p1 < 128
  · simp only [w_or_byte, flagged_shl14, flagged_and7f_shl7, Nat.reduceEqDiff, Nat.reduceAdd,
        if_false, if_true, Nat.add_sub_cancel_left, Option.some.injEq, Prod.mk.injEq, and_true,
        Chained.dec32, Chained.dec, Chained.decAux, Option.map_some, Nat.zero_mul, Nat.zero_add,
        and_80_of_lt h1, h0', h1, hd0]
    rw [if_neg (by omega)]
    unfold w; omega
  obtain ⟨d1, rfl⟩ : ∃ d, p1 = 128 + d := ⟨p1 - 128, by omega⟩
  have hd1 : d1 < 128 := by omega
  simp only [flagged_shl14, flagged_and7f_shl7, Nat.reduceEqDiff, if_false, and_80_flagged hd1, hd0,
    hd1]
  rcases t with _ | ⟨p2, t⟩
  · simp only [List.getElem?_nil, Option.bind_none, Chained.dec32, Chained.dec, Chained.decAux,
        Option.map_none, Nat.zero_mul, Nat.zero_add, h0', h1, Nat.reduceEqDiff, if_false]
  have lt2 : p2 < 256 := hb p2 (by simp)
  rw [List.getElem?_cons_zero, Option.bind_some]
  by_cases h2 : p2 < 128
  · simp only [w_or_byte, w_flag, w_slot20, w_or, Nat.or_zero, Nat.zero_or, Nat.reduceMod,
        Nat.reduceMul, Nat.reduceEqDiff, Nat.reduceLT, Nat.reduceAdd, if_false, if_true,
        Nat.add_sub_cancel_left, Option.some.injEq, Prod.mk.injEq, and_true, Chained.dec32, Chained.dec,
        Chained.decAux, Option.map_some, Nat.zero_mul, Nat.zero_add, h0', h1, h2, hd0, hd1]
    rw [if_neg (by omega)]
    unfold w; omega
  obtain ⟨d2, rfl⟩ : ∃ d, p2 = 128 + d := ⟨p2 - 128, by omega⟩
  have hd2 : d2 < 128 := by omega
  simp only [w_or_flagged, w_flag, w_slot20, Nat.reduceMod, Nat.reduceMul, Nat.reduceEqDiff,
    Nat.reduceLT, if_false, hd0, hd2]
  rw [getVarint_eq_dec _ hb]
  exact clamp_eq _ (dec_len_le _)

theorem dec32_len_le (bs : List Nat) (v l : Nat) (h : Chained.dec32 bs = some (v, l)) : l ≤ 9 := by
  unfold Chained.dec32 at h
  cases hd : Chained.dec bs with
  | none => rw [hd] at h; simp at h
  | some x =>
    obtain ⟨v', l'⟩ := x
    rw [hd] at h
    simp only [Option.map_some, Option.some.injEq, Prod.mk.injEq] at h
    have := dec_len_le bs v' l' hd
    omega

/-- `ChainedU.getVarint32` (the macro `varintChained_getVarint32`, the documented entry point)
    equals the format-level `Chained.dec32` on every byte string. -/
theorem getVarint32_eq_dec32 (p : List Nat) (hb : ∀ b ∈ p, b < 256) :
    getVarint32 p = Chained.dec32 p := by
  unfold getVarint32
  rcases p with _ | ⟨p0, t⟩
  · rfl
  simp only [List.getElem?_cons_zero, Option.bind_eq_bind, Option.bind_some, Option.pure_def, u8]
  by_cases h0 : p0 < 128
  · rw [if_pos (by omega)]
    simp [Chained.dec32, Chained.dec, Chained.decAux, h0]
    omega
  rw [if_neg (by omega), getVarint32Fn_eq_dec32 p0 t (by omega) hb]
  cases hd : Chained.dec32 (p0 :: t) with
  | none => rfl
  | some x =>
    obtain ⟨v, l⟩ := x
    have := dec32_len_le _ v l hd
    simp only [Option.bind_some, Option.some.injEq, Prod.mk.injEq, true_and]
    omega


/-- `((uint32_t)p[i]) << 14` and `(p[i] & 0x7f) << 7` for an unflagged byte -/
theorem byte_shl14 {x : Nat} (hx : x < 128) : x * 16384 % 4294967296 = w 0 0 x 0 0 := by
  unfold w; omega

theorem byte_and7f_shl7 {x : Nat} (hx : x < 128) : (x &&& 127) * 128 % 4294967296 = w 0 0 0 x 0 := by
  rw [and_7f]; unfold w; omega

/-! ### the C function called directly (not through the macro) on an unflagged first byte

  `varintChainedGetVarint32` is compiled WITHOUT its one-byte case (the header macro is defined
  when varintChained.c is compiled), so on a first byte `< 0x80` it does not return
  `(p[0], 1)`: it always reads `p[1]` and treats `p[0]` as if its flag were set, except on the
  fall-back path where the 64-bit reader sees the true one-byte varint. -/

theorem getVarint32Fn_unflagged (p0 : Nat) (t : List Nat) (h0 : p0 < 128)
    (hb : ∀ b ∈ t, b < 256) :
    getVarint32Fn (p0 :: t) =
      match t with
      | [] => none
      | p1 :: t1 =>
        if p1 < 128 then some (p0 * 128 + p1, 2)
        else match t1 with
          | [] => none
          | p2 :: _ =>
            if p2 < 128 then some (p0 * 16384 + (p1 - 128) * 128 + p2, 3) else some (p0, 1) := by
  unfold getVarint32Fn
  simp -zeta only [shl32, u8, u32, SQLITE_MAX_U32, Nat.reducePow, Nat.reduceMul, Nat.reduceMod,
    Nat.reduceOr, Nat.reduceSub, Option.bind_eq_bind, Option.pure_def, and_max32]
  conv => zeta
  simp only [Nat.reduceAdd, Nat.reduceSub, List.drop_zero, List.getElem?_cons_zero,
    List.getElem?_cons_succ, Option.bind_some]
  rcases t with _ | ⟨p1, t⟩
  · rfl
  have lt1 : p1 < 256 := hb p1 (by simp)
  rw [List.getElem?_cons_zero, Option.bind_some]
  simp only [List.getElem?_cons_succ]
  by_cases h1 : p1 < 128
  · simp only [w_or_byte, byte_shl14, byte_and7f_shl7, if_true, Option.some.injEq, Prod.mk.injEq,
        and_true, and_80_of_lt h1, h0, h1]
    unfold w; omega
  obtain ⟨d1, rfl⟩ : ∃ d, p1 = 128 + d := ⟨p1 - 128, by omega⟩
  have hd1 : d1 < 128 := by omega
  simp only [byte_shl14, byte_and7f_shl7, flagged_and7f_shl7, Nat.reduceEqDiff, if_false,
    and_80_flagged hd1, h0, h1, hd1]
  rcases t with _ | ⟨p2, t⟩
  · rfl
  have lt2 : p2 < 256 := hb p2 (by simp)
  rw [List.getElem?_cons_zero, Option.bind_some]
  by_cases h2 : p2 < 128
  · simp only [w_or_byte, w_flag, w_slot20, w_or, Nat.or_zero, Nat.zero_or, Nat.reduceMod,
        Nat.reduceMul, Nat.reduceLT, if_true, Option.some.injEq, Prod.mk.injEq, and_true, h0, h2, hd1]
    unfold w; omega
  obtain ⟨d2, rfl⟩ : ∃ d, p2 = 128 + d := ⟨p2 - 128, by omega⟩
  have hd2 : d2 < 128 := by omega
  simp only [w_or_flagged, w_flag, w_slot20, Nat.reduceMod, Nat.reduceMul, Nat.reduceEqDiff,
    Nat.reduceLT, if_false, h0, h2, hd2]
  rw [getVarint_eq_dec _ (List.forall_mem_cons.2 ⟨by omega, hb⟩)]
  simp only [Chained.dec, Chained.decAux, Nat.reduceEqDiff, if_false, if_pos h0, Option.bind_some,
    Nat.reduceAdd, Nat.reduceMod, Nat.zero_mul, Nat.zero_add]
  rw [if_neg (by omega)]
  simp only [Option.some.injEq, Prod.mk.injEq, and_true]
  omega

/-- Concrete instances of the difference between the C *function* and the macro / the model:
    `[0x05, 0x03]` decodes to `(5, 1)`; the function called directly returns `(643, 2)`;
    on `[0x05]` alone it reads `p[1]`, one byte past the varint. -/
theorem getVarint32Fn_differs :
    getVarint32Fn [5, 3] = some (643, 2) ∧ Chained.dec32 [5, 3] = some (5, 1) ∧
    getVarint32 [5, 3] = some (5, 1) ∧
    getVarint32Fn [5] = none ∧ Chained.dec32 [5] = some (5, 1) ∧ getVarint32 [5] = some (5, 1) := by
  decide

end Varint.ChainedU
