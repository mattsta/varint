import Varint.Model.Packed
import Varint.Lemmas.BitField
import Varint.Lemmas.Bitstream
import Varint.Lemmas.List
/-
  Refinement of the slot-level packed-array model to one big little-endian number:
  `get` is a bit-field extract and `set` a bit-field insert of that number.
-/
namespace Varint.Packed
open Varint.BF

variable {S b : Nat} {ws : List Nat}

/-- the slot array read as one number, slot 0 least significant -/
def val (S : Nat) : List Nat → Nat
  | [] => 0
  | w :: ws => 2 ^ S * val S ws + w

def WordsOK (S : Nat) (ws : List Nat) : Prop := ∀ w ∈ ws, w < 2 ^ S

theorem getD_lt (h : WordsOK S ws) (k : Nat) : ws.getD k 0 < 2 ^ S :=
  getD_zero_lt ws h (Nat.pow_pos (by omega)) k

theorem testBit_val (h : WordsOK S ws) (k r : Nat) (hr : r < S) :
    (val S ws).testBit (k * S + r) = (ws.getD k 0).testBit r := by
  induction ws generalizing k with
  | nil => simp [val]
  | cons w ws ih =>
    have hw : w < 2 ^ S := h w (by simp)
    have hws : WordsOK S ws := fun x hx => h x (by simp [hx])
    rw [val, Nat.testBit_two_pow_mul_add _ hw]
    cases k with
    | zero =>
      have : 0 * S + r < S := by omega
      rw [if_pos this]; simp
    | succ k =>
      have e : (k + 1) * S + r = k * S + r + S := by rw [Nat.succ_mul]; omega
      have : ¬ ((k + 1) * S + r < S) := by rw [e]; omega
      rw [if_neg this, e, Nat.add_sub_cancel, ih hws k]
      simp [List.getD]

theorem wordsOK_set (h : WordsOK S ws) (j x : Nat) (hx : x < 2 ^ S) :
    WordsOK S (ws.set j x) := by
  intro w hw
  rcases List.mem_or_eq_of_mem_set hw with h1 | h1
  · exact h w h1
  · rw [h1]; exact hx

theorem pos_of (n S : Nat) (hS : 0 < S) : n % S < S ∧ n = n / S * S + n % S :=
  ⟨Nat.mod_lt _ hS, by rw [Nat.mul_comm]; exact (Nat.div_add_mod n S).symm⟩

/-- the slots the element occupies exist and it spans at most two of them -/
def Fits (S b i : Nat) (ws : List Nat) : Prop :=
  (if b ≤ S - i * b % S then i * b / S else i * b / S + 1) < ws.length ∧ b ≤ 2 * S - i * b % S

/-! ### a field inside slot `j` is the same field of the big number -/

theorem extract_val_field (j sb n : Nat) (hw : WordsOK S ws) (hn : sb + n ≤ S) :
    extract (val S ws) (j * S + sb) n = extract (ws.getD j 0) sb n := by
  apply Nat.eq_of_testBit_eq
  intro q
  rw [testBit_extract, testBit_extract]
  by_cases hq : q < n
  · rw [Nat.add_assoc, testBit_val hw j (sb + q) (by omega)]
  · simp [hq]

theorem val_set_field (j sb n v : Nat) (hS : 0 < S) (hw : WordsOK S ws)
    (hj : j < ws.length) (hn : sb + n ≤ S) (hv : v < 2 ^ n) :
    val S (ws.set j (insert (ws.getD j 0) sb n v)) = insert (val S ws) (j * S + sb) n v ∧
    WordsOK S (ws.set j (insert (ws.getD j 0) sb n v)) := by
  have hok := wordsOK_set hw j _ (insert_lt _ _ _ _ _ (getD_lt hw j) hv hn)
  refine ⟨?_, hok⟩
  apply Nat.eq_of_testBit_eq
  intro p
  obtain ⟨k, r, hr, rfl⟩ : ∃ k r, r < S ∧ p = k * S + r :=
    ⟨p / S, p % S, pos_of p S hS⟩
  rw [testBit_val hok k r hr, testBit_insert _ _ _ _ _ hv, testBit_val hw k r hr]
  by_cases hkj : k = j
  · subst hkj
    rw [Bitstream.getD_set_self _ _ _ hj, testBit_insert _ _ _ _ _ hv]
    by_cases hin : sb ≤ r ∧ r < sb + n
    · rw [if_pos hin, if_pos (by omega), show k * S + r - (k * S + sb) = r - sb by omega]
    · rw [if_neg hin, if_neg (by omega)]
  · rw [Bitstream.getD_set_ne _ _ _ _ (Ne.symm hkj), if_neg]
    -- a bit of another slot is a whole slot away from the field
    intro ⟨h1, h2⟩
    rcases Nat.lt_or_gt_of_ne hkj with h | h
    · have := Nat.mul_le_mul_right S (Nat.succ_le_of_lt h)
      rw [Nat.succ_mul] at this; omega
    · have := Nat.mul_le_mul_right S (Nat.succ_le_of_lt h)
      rw [Nat.succ_mul] at this; omega

theorem val_set (i v : Nat) (hS : 0 < S) (hv : v < 2 ^ b)
    (hw : WordsOK S ws) (hf : Fits S b i ws) :
    val S (set S b ws i v) = insert (val S ws) (i * b) b v ∧ WordsOK S (set S b ws i v) ∧
    (set S b ws i v).length = ws.length := by
  obtain ⟨hsb, heq⟩ := pos_of (i * b) S hS
  obtain ⟨hlen, hspan⟩ := hf
  unfold set
  simp only []
  generalize i * b / S = j at *
  generalize i * b % S = sb at *
  rw [heq]
  by_cases hc : b ≤ S - sb
  · rw [if_pos hc] at hlen ⊢
    obtain ⟨h1, h2⟩ := val_set_field j sb b v hS hw hlen (by omega) hv
    exact ⟨h1, h2, List.length_set ..⟩
  · rw [if_neg hc] at hlen ⊢
    obtain ⟨h1, hok1⟩ := val_set_field j sb (S - sb) _ hS hw (by omega) (by omega)
      (and_mask_lt v (S - sb))
    obtain ⟨h2, hok2⟩ := val_set_field (j + 1) 0 (b - (S - sb)) _ hS hok1 (by rw [List.length_set]; exact hlen)
      (by omega) (shiftRight_lt v b (S - sb) hv (by omega))
    refine ⟨?_, hok2, by rw [List.length_set, List.length_set]⟩
    rw [h2, h1, insert_split _ (j * S + sb) (S - sb) b v (by omega) hv, Nat.succ_mul]
    congr 1
    omega

theorem get_eq (i : Nat) (hS : 0 < S) (hw : WordsOK S ws)
    (hspan : b ≤ 2 * S - i * b % S) :
    get S b ws i = extract (val S ws) (i * b) b := by
  obtain ⟨hsb, heq⟩ := pos_of (i * b) S hS
  unfold get
  simp only []
  generalize i * b / S = j at *
  generalize i * b % S = sb at *
  rw [heq]
  by_cases hc : b ≤ S - sb
  · rw [if_pos hc, extract_val_field j sb b hw (by omega)]
  · rw [if_neg hc, extract_split _ _ (S - sb) b (by omega), extract_val_field j sb _ hw (by omega),
      show j * S + sb + (S - sb) = (j + 1) * S + 0 by rw [Nat.succ_mul]; omega,
      extract_val_field (j + 1) 0 _ hw (by omega)]

end Varint.Packed
