import Varint.Model.Bits
import Varint.Lemmas.Bytes
/- Lemmas about the bit-list helpers of Model/Bits.lean: value of a bit list, packing into bytes and reading single bits
   back (LSB-first for BP128 and the float codec, MSB-first for Elias), `bitsNeeded` and `log2`. Core Lean only. -/
namespace Varint.Bits

theorem lsb_length (n v : Nat) : (lsb n v).length = n := by
  induction n generalizing v with
  | zero => rfl
  | succ n ih => simp [lsb, ih]

theorem ofLsb_lsb (n v : Nat) : ofLsb (lsb n v) = v % 2 ^ n := by
  induction n generalizing v with
  | zero => simp [lsb, ofLsb, Nat.mod_one]
  | succ n ih =>
    simp only [lsb, ofLsb, ih]
    rw [Nat.pow_succ', Nat.mod_mul]
    by_cases h : v % 2 = 1
    · simp [h]
    · have : v % 2 = 0 := by omega
      simp [this]

theorem ofLsb_lsb_of_lt {n v : Nat} (h : v < 2 ^ n) : ofLsb (lsb n v) = v := by
  rw [ofLsb_lsb, Nat.mod_eq_of_lt h]

theorem ofLsb_lt (bs : List Bool) : ofLsb bs < 2 ^ bs.length := by
  induction bs with
  | nil => simp [ofLsb]
  | cons b bs ih =>
    simp only [ofLsb, List.length_cons, Nat.pow_succ]
    cases b <;> simp <;> omega

theorem ofLsb_bit (bs : List Bool) (i : Nat) :
    decide (ofLsb bs / 2 ^ i % 2 = 1) = bs.getD i false := by
  induction bs generalizing i with
  | nil => simp [ofLsb]
  | cons b bs ih =>
    cases i with
    | zero =>
      simp only [ofLsb, Nat.pow_zero, Nat.div_one, List.getD_cons_zero]
      cases b <;> simp <;> omega
    | succ i =>
      simp only [ofLsb, List.getD_cons_succ]
      rw [← ih i]
      have : ((if b = true then 1 else 0) + 2 * ofLsb bs) / 2 ^ (i + 1) = ofLsb bs / 2 ^ i := by
        rw [Nat.pow_succ', ← Nat.div_div_eq_div_mul]
        congr 1
        cases b <;> simp <;> omega
      simp only [this]

theorem packLsb_eq (bits : List Bool) :
    packLsb bits = if bits = [] then [] else ofLsb (bits.take 8) :: packLsb (bits.drop 8) := by
  rcases bits with _ | ⟨b0, _ | ⟨b1, _ | ⟨b2, _ | ⟨b3, _ | ⟨b4, _ | ⟨b5, _ | ⟨b6, _ | ⟨b7, r⟩⟩⟩⟩⟩⟩⟩⟩ <;> rfl

/-! `packLsb` and `packMsb` alike cut eight bits per byte off the front: length and byte range for any such packing -/
section pack
variable {pack : List Bool → List Nat} {byte : List Bool → Nat}
  (hp : ∀ bits, pack bits = if bits = [] then [] else byte bits :: pack (bits.drop 8))
include hp

theorem pack_length (bits : List Bool) : (pack bits).length = (bits.length + 7) / 8 := by
  induction h : bits.length using Nat.strongRecOn generalizing bits with
  | _ n ih =>
    rw [hp bits]
    by_cases hb : bits = []
    · subst hb; simp at h; subst h; simp
    · rw [if_neg hb]
      have hpos : 0 < bits.length := List.length_pos_iff.mpr hb
      simp only [List.length_cons]
      rw [ih (bits.length - 8) (by omega) (bits.drop 8) (by simp)]
      omega

theorem pack_lt (hbyte : ∀ bits, byte bits < 256) (bits : List Bool) : ∀ b ∈ pack bits, b < 256 := by
  induction h : bits.length using Nat.strongRecOn generalizing bits with
  | _ n ih =>
    rw [hp bits]
    by_cases hb : bits = []
    · simp [hb]
    · rw [if_neg hb]
      have hpos : 0 < bits.length := List.length_pos_iff.mpr hb
      intro b hmem
      simp only [List.mem_cons] at hmem
      rcases hmem with rfl | hmem
      · exact hbyte bits
      · exact ih (bits.length - 8) (by omega) (bits.drop 8) (by simp) b hmem

end pack

theorem packLsb_length (bits : List Bool) : (packLsb bits).length = (bits.length + 7) / 8 :=
  pack_length packLsb_eq bits

theorem packLsb_lt (bits : List Bool) : ∀ b ∈ packLsb bits, b < 256 :=
  pack_lt packLsb_eq (fun bits =>
    Nat.lt_of_lt_of_le (ofLsb_lt (bits.take 8)) (Nat.pow_le_pow_right (by omega) (List.length_take_le 8 bits))) bits

theorem bitLsb_cons (a : Nat) (l : List Nat) (i : Nat) (h : 8 ≤ i) :
    bitLsb (a :: l) i = bitLsb l (i - 8) := by
  unfold bitLsb
  have h1 : i / 8 = (i - 8) / 8 + 1 := by omega
  have h2 : i % 8 = (i - 8) % 8 := by omega
  rw [h1, h2, List.getElem?_cons_succ]

theorem bitLsb_packLsb (bits : List Bool) (rest : List Nat) (i : Nat) (hi : i < bits.length) :
    bitLsb (packLsb bits ++ rest) i = bits[i]? := by
  induction h : bits.length using Nat.strongRecOn generalizing bits i with
  | _ n ih =>
    rw [packLsb_eq]
    have hb : bits ≠ [] := by intro hb; subst hb; simp at hi
    rw [if_neg hb, List.cons_append]
    by_cases h8 : 8 ≤ i
    · rw [bitLsb_cons _ _ _ h8, ih (bits.length - 8) (by omega) (bits.drop 8) (i - 8) (by simp; omega) (by simp)]
      rw [List.getElem?_drop]
      congr 1; omega
    · have hi8 : i < 8 := by omega
      unfold bitLsb
      have h1 : i / 8 = 0 := by omega
      have h2 : i % 8 = i := by omega
      rw [h1, h2]
      simp only [List.getElem?_cons_zero, Option.map_some]
      rw [ofLsb_bit]
      rw [List.getD_eq_getElem?_getD, List.getElem?_take_of_lt hi8]
      rw [List.getElem?_eq_getElem hi]
      simp

theorem flatMap_lsb_length (bw : Nat) (vs : List Nat) : (vs.flatMap (lsb bw)).length = vs.length * bw :=
  length_flatMap_of_length (lsb bw) bw (lsb_length bw) vs

theorem foldl_ofMsb (bs : List Bool) (a : Nat) :
    bs.foldl (fun a b => 2 * a + (if b then 1 else 0)) a = a * 2 ^ bs.length + ofMsb bs := by
  induction bs generalizing a with
  | nil => simp [ofMsb]
  | cons b bs ih =>
    unfold ofMsb
    simp only [List.foldl_cons, List.length_cons]
    rw [ih, ih (2 * 0 + _)]
    rw [Nat.pow_succ]
    cases b <;> simp <;> rw [Nat.mul_comm (2 ^ bs.length) 2, ← Nat.mul_assoc, Nat.mul_comm a 2]
    rw [Nat.add_mul, Nat.add_assoc, Nat.one_mul]

theorem ofMsb_cons (b : Bool) (bs : List Bool) :
    ofMsb (b :: bs) = (if b then 1 else 0) * 2 ^ bs.length + ofMsb bs := by
  have := foldl_ofMsb bs (2 * 0 + (if b then 1 else 0))
  unfold ofMsb at *
  simp only [List.foldl_cons]
  rw [this, Nat.mul_zero, Nat.zero_add]

theorem ofMsb_lt (bs : List Bool) : ofMsb bs < 2 ^ bs.length := by
  induction bs with
  | nil => simp [ofMsb]
  | cons b bs ih =>
    rw [ofMsb_cons, List.length_cons, Nat.pow_succ]
    cases b <;> simp <;> omega

theorem ofMsb_bit_nat (bs : List Bool) (i : Nat) (h : i < bs.length) :
    ofMsb bs / 2 ^ (bs.length - 1 - i) % 2 = if bs[i] then 1 else 0 := by
  induction bs generalizing i with
  | nil => simp at h
  | cons b bs ih =>
    have hlt := ofMsb_lt bs
    rw [ofMsb_cons]
    cases i with
    | zero =>
      simp only [List.length_cons, List.getElem_cons_zero, Nat.add_sub_cancel, Nat.sub_zero]
      rw [Nat.add_comm, Nat.add_mul_div_right _ _ (Nat.two_pow_pos _), Nat.div_eq_of_lt hlt]
      cases b <;> simp
    | succ i =>
      simp only [List.length_cons, List.getElem_cons_succ] at h ⊢
      have hi : i < bs.length := by omega
      rw [← ih i hi]
      have he : bs.length + 1 - 1 - (i + 1) = bs.length - 1 - i := by omega
      rw [he]
      have hp : 2 ^ bs.length = 2 ^ i * 2 * 2 ^ (bs.length - 1 - i) := by
        rw [← Nat.pow_succ, ← Nat.pow_add]
        congr 1
        omega
      cases b
      · simp
      · simp only [if_true, Nat.one_mul]
        rw [hp, Nat.add_comm, Nat.add_mul_div_right _ _ (Nat.two_pow_pos _)]
        omega

theorem ofMsb_bit (bs : List Bool) (i : Nat) (h : i < bs.length) :
    decide (ofMsb bs / 2 ^ (bs.length - 1 - i) % 2 = 1) = bs[i] := by
  rw [ofMsb_bit_nat bs i h]
  cases bs[i] <;> simp

/-- the first eight bits, zero padded to a byte -/
def byte8 (bits : List Bool) : List Bool := bits.take 8 ++ List.replicate (8 - (bits.take 8).length) false

theorem packMsb_eq (bits : List Bool) :
    packMsb bits = if bits = [] then [] else ofMsb (byte8 bits) :: packMsb (bits.drop 8) := by
  rcases bits with _ | ⟨b0, _ | ⟨b1, _ | ⟨b2, _ | ⟨b3, _ | ⟨b4, _ | ⟨b5, _ | ⟨b6, _ | ⟨b7, r⟩⟩⟩⟩⟩⟩⟩⟩ <;> rfl

theorem byte8_length (bits : List Bool) : (byte8 bits).length = 8 := by
  unfold byte8
  rw [List.length_append, List.length_replicate, List.length_take]
  omega

theorem packMsb_length (bits : List Bool) : (packMsb bits).length = (bits.length + 7) / 8 :=
  pack_length packMsb_eq bits

theorem packMsb_lt (bits : List Bool) : ∀ b ∈ packMsb bits, b < 256 :=
  pack_lt packMsb_eq (fun bits => by have := ofMsb_lt (byte8 bits); rwa [byte8_length] at this) bits

theorem bitMsb_cons_lt (B : Nat) (tl : List Nat) (i : Nat) (h : i < 8) :
    bitMsb (B :: tl) i = some (decide (B / 2 ^ (7 - i) % 2 = 1)) := by
  unfold bitMsb
  have h1 : i / 8 = 0 := by omega
  have h2 : i % 8 = i := by omega
  rw [h1, h2]
  rfl

theorem bitMsb_cons_ge (B : Nat) (tl : List Nat) (i : Nat) :
    bitMsb (B :: tl) (i + 8) = bitMsb tl i := by
  unfold bitMsb
  have h1 : (i + 8) / 8 = i / 8 + 1 := by omega
  have h2 : (i + 8) % 8 = i % 8 := by omega
  rw [h1, h2, List.getElem?_cons_succ]

theorem ofMsb8_bit (bs : List Bool) (hl : bs.length = 8) (i : Nat) (h : i < 8) :
    decide (ofMsb bs / 2 ^ (7 - i) % 2 = 1) = bs[i] := by
  have := ofMsb_bit bs i (by omega)
  rw [← this]
  have he : bs.length - 1 - i = 7 - i := by omega
  rw [he]

theorem byte8_getElem (bits : List Bool) (i : Nat) (h : i < 8) :
    (byte8 bits)[i]'(by rw [byte8_length]; exact h) = bits.getD i false := by
  unfold byte8
  rw [List.getD_eq_getElem?_getD]
  by_cases hb : i < bits.length
  · rw [List.getElem_append_left (by rw [List.length_take]; omega), List.getElem_take,
      List.getElem?_eq_getElem hb]
    rfl
  · rw [List.getElem_append_right (by rw [List.length_take]; omega), List.getElem_replicate,
      List.getElem?_eq_none (by omega)]
    rfl

/-- every bit of the packed bytes: the original bit, or `false` in the zero padding -/
theorem bitMsb_packMsb (bits : List Bool) (i : Nat) (h : i < 8 * (packMsb bits).length) :
    bitMsb (packMsb bits) i = some (bits.getD i false) := by
  induction hl : bits.length using Nat.strongRecOn generalizing bits i with
  | _ n ih =>
    rw [packMsb_eq] at h ⊢
    have hb : bits ≠ [] := by
      rintro rfl
      simp at h
    rw [if_neg hb] at h ⊢
    have hpos : 0 < bits.length := List.length_pos_iff.mpr hb
    by_cases hi : i < 8
    · rw [bitMsb_cons_lt _ _ _ hi, ofMsb8_bit _ (byte8_length bits) i hi, byte8_getElem bits i hi]
    · obtain ⟨j, rfl⟩ : ∃ j, i = j + 8 := ⟨i - 8, by omega⟩
      rw [bitMsb_cons_ge, ih (bits.length - 8) (by omega) (bits.drop 8) j
        (by rw [List.length_cons] at h; omega) (by simp)]
      simp [List.getD_eq_getElem?_getD, Nat.add_comm]
theorem bitMsb_packMsb_lt (bits : List Bool) (i : Nat) (h : i < bits.length) :
    bitMsb (packMsb bits) i = some bits[i] := by
  rw [bitMsb_packMsb bits i (by rw [packMsb_length]; omega), List.getD_eq_getElem?_getD,
    List.getElem?_eq_getElem h]
  rfl

theorem bitMsb_packMsb_pad (bits : List Bool) (i : Nat) (h1 : bits.length ≤ i)
    (h2 : i < 8 * (packMsb bits).length) : bitMsb (packMsb bits) i = some false := by
  rw [bitMsb_packMsb bits i h2, List.getD_eq_getElem?_getD, List.getElem?_eq_none h1]
  rfl

theorem msb_length (n v : Nat) : (msb n v).length = n := by
  induction n with
  | zero => rfl
  | succ n ih => simp [msb, ih]

theorem msb_succ_head (L v : Nat) (hlo : 2 ^ L ≤ v) (hhi : v < 2 ^ (L + 1)) :
    msb (L + 1) v = true :: msb L v := by
  have h1 : v / 2 ^ L = 1 :=
    Nat.div_eq_of_lt_le (by omega) (by rw [Nat.pow_succ] at hhi; omega)
  rw [msb, h1]
  rfl

theorem pow_add_mod (L v : Nat) (hlo : 2 ^ L ≤ v) (hhi : v < 2 ^ (L + 1)) : 2 ^ L + v % 2 ^ L = v := by
  have h1 : v / 2 ^ L = 1 :=
    Nat.div_eq_of_lt_le (by omega) (by rw [Nat.pow_succ] at hhi; omega)
  have := Nat.div_add_mod v (2 ^ L)
  rw [h1, Nat.mul_one] at this
  exact this

theorem lt_pow_bitsNeeded (m : Nat) : m < 2 ^ bitsNeeded m := by
  unfold bitsNeeded
  split
  · subst_vars; simp
  · exact Nat.lt_log2_self

theorem bitsNeeded_le {m k : Nat} (h : m < 2 ^ k) : bitsNeeded m ≤ k := by
  unfold bitsNeeded
  split
  · omega
  · rename_i hm
    have := (Nat.log2_lt hm).2 h
    omega

theorem bitsNeeded_eq_zero (m : Nat) : bitsNeeded m = 0 ↔ m = 0 := by
  unfold bitsNeeded
  split <;> simp [*]

theorem log2_step (v : Nat) (h : 2 ≤ v) : Nat.log2 v = Nat.log2 (v / 2) + 1 := by
  rw [Nat.log2_def]
  simp [h]

theorem log2_small (v : Nat) (h : v ≤ 1) : Nat.log2 v = 0 := by
  rw [Nat.log2_def]
  have : ¬ 2 ≤ v := by omega
  simp [this]

theorem log2_bounds (v : Nat) (h1 : 1 ≤ v) : 2 ^ log2 v ≤ v ∧ v < 2 ^ (log2 v + 1) :=
  ⟨Nat.log2_self_le (by omega), Nat.lt_log2_self⟩

theorem log2_le_63 (v : Nat) (h : v < 2 ^ 64) : log2 v ≤ 63 := by
  unfold log2
  by_cases h0 : v = 0
  · subst h0
    exact Nat.le_trans (Nat.le_of_eq Nat.log2_zero) (Nat.zero_le _)
  · have := (Nat.log2_lt h0).mpr h
    omega

end Varint.Bits
