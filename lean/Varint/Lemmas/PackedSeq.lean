import Varint.Lemmas.Packed
/-
  The shifting loops of the packed-array model (Insert, InsertSorted, Delete, Member, DeleteMember)
  refine ordinary list operations on the abstraction `elems`.
-/
namespace Varint.Packed
open Varint.BF

variable {S b : Nat} {ws : List Nat}

/-- the first `n` elements of the packed array as a list -/
def elems (S b : Nat) (ws : List Nat) (n : Nat) : List Nat := (List.range n).map (get S b ws)

/-- element `j` spans at most two slots (the domain of `get`) -/
def Span (S b j : Nat) : Prop := b ≤ 2 * S - j * b % S

def FitsN (S b : Nat) (ws : List Nat) (n : Nat) : Prop := ∀ i, i < n → Fits S b i ws

theorem fits_of_length {S b i : Nat} {ws ws' : List Nat} (hl : ws'.length = ws.length)
    (h : Fits S b i ws) : Fits S b i ws' := by
  unfold Fits at *; rw [hl]; exact h

theorem fitsN_of_length {S b n : Nat} {ws ws' : List Nat} (hl : ws'.length = ws.length)
    (h : FitsN S b ws n) : FitsN S b ws' n := fun i hi => fits_of_length hl (h i hi)

theorem fitsN_mono {S b n m : Nat} {ws : List Nat} (h : FitsN S b ws n) (hm : m ≤ n) :
    FitsN S b ws m := fun i hi => h i (by omega)

theorem FitsN.span {S b n : Nat} {ws : List Nat} (h : FitsN S b ws n) {j : Nat} (hj : j < n) :
    Span S b j := (h j hj).2

theorem get_lt (i : Nat) (hS : 0 < S) (hw : WordsOK S ws)
    (hspan : Span S b i) : get S b ws i < 2 ^ b := by
  rw [get_eq i hS hw hspan]; exact extract_lt _ _ _

theorem get_set_self (i v : Nat) (hS : 0 < S) (hv : v < 2 ^ b)
    (hw : WordsOK S ws) (hf : Fits S b i ws) :
    get S b (set S b ws i v) i = v := by
  obtain ⟨hval, hok, _⟩ := val_set i v hS hv hw hf
  rw [get_eq i hS hok hf.2, hval, extract_insert _ _ _ _ hv]

theorem get_set_ne (i j v : Nat) (hS : 0 < S) (hv : v < 2 ^ b)
    (hw : WordsOK S ws) (hf : Fits S b i ws) (hij : i ≠ j) (hspan : Span S b j) :
    get S b (set S b ws i v) j = get S b ws j := by
  obtain ⟨hval, hok, _⟩ := val_set i v hS hv hw hf
  rw [get_eq j hS hok hspan, get_eq j hS hw hspan, hval]
  apply extract_insert_disjoint _ _ _ _ _ _ hv
  rcases Nat.lt_or_gt_of_ne hij with h | h
  · right
    have : (i + 1) * b ≤ j * b := Nat.mul_le_mul_right b h
    rw [Nat.succ_mul] at this; exact this
  · left
    have : (j + 1) * b ≤ i * b := Nat.mul_le_mul_right b h
    rw [Nat.succ_mul] at this; exact this

theorem set_bits_outside (i v : Nat) (hS : 0 < S) (hv : v < 2 ^ b)
    (hw : WordsOK S ws) (hf : Fits S b i ws) (p : Nat) (hp : p < i * b ∨ i * b + b ≤ p) :
    (val S (set S b ws i v)).testBit p = (val S ws).testBit p := by
  obtain ⟨hval, _, _⟩ := val_set i v hS hv hw hf
  rw [hval, testBit_insert_outside _ _ _ _ _ hv hp]

/-- one step of the shifting loops -/
theorem move_spec (i j : Nat) (hS : 0 < S) (hw : WordsOK S ws)
    (hf : Fits S b i ws) (hj : Span S b j) :
    (set S b ws i (get S b ws j)).length = ws.length ∧ WordsOK S (set S b ws i (get S b ws j)) ∧
    (∀ q, Span S b q → get S b (set S b ws i (get S b ws j)) q = if q = i then get S b ws j else get S b ws q) ∧
    ∀ p, (p < i * b ∨ i * b + b ≤ p) → (val S (set S b ws i (get S b ws j))).testBit p = (val S ws).testBit p := by
  have hv := get_lt j hS hw hj
  obtain ⟨_, hok, hlen⟩ := val_set i _ hS hv hw hf
  refine ⟨hlen, hok, ?_, set_bits_outside i _ hS hv hw hf⟩
  intro q hq
  by_cases h : q = i
  · rw [if_pos h, h]
    exact get_set_self i _ hS hv hw hf
  · rw [if_neg h]
    exact get_set_ne i q _ hS hv hw hf (Ne.symm h) hq

theorem elems_length (n : Nat) : (elems S b ws n).length = n := by
  simp [elems]

theorem elems_getElem (n i : Nat) (h : i < (elems S b ws n).length) :
    (elems S b ws n)[i] = get S b ws i := by
  simp [elems]

theorem mem_elems (n v : Nat) :
    v ∈ elems S b ws n ↔ ∃ k, k < n ∧ get S b ws k = v := by
  simp [elems]

theorem elems_eq_of (n : Nat) (l : List Nat) (hl : l.length = n)
    (h : ∀ i (hi : i < l.length), get S b ws i = l[i]) : elems S b ws n = l := by
  apply List.ext_getElem
  · rw [elems_length, hl]
  · intro i h1 h2
    rw [elems_getElem, h i h2]

theorem elems_congr (S b : Nat) (ws ws' : List Nat) (n : Nat)
    (h : ∀ i, i < n → get S b ws' i = get S b ws i) : elems S b ws' n = elems S b ws n := by
  apply elems_eq_of
  · exact elems_length _
  · intro i hi
    rw [elems_getElem]
    exact h i (by rw [elems_length] at hi; exact hi)

theorem sorted_elems_iff (n : Nat) :
    (elems S b ws n).Pairwise (· ≤ ·) ↔
      ∀ k k', k ≤ k' → k' < n → get S b ws k ≤ get S b ws k' := by
  rw [List.pairwise_iff_getElem]
  constructor
  · intro h k k' hkk hk'
    rcases Nat.lt_or_eq_of_le hkk with hlt | heq
    · have := h k k' (by rw [elems_length]; omega) (by rw [elems_length]; omega) hlt
      rw [elems_getElem, elems_getElem] at this
      exact this
    · subst heq; exact Nat.le_refl _
  · intro h i j hi hj hij
    rw [elems_getElem, elems_getElem]
    rw [elems_length] at hj
    exact h i j (by omega) hj

theorem shiftUp_spec (hS : 0 < S) (k : Nat) (off : Nat)
    (hw : WordsOK S ws) (hf : FitsN S b ws (off + k + 1)) :
    (shiftUp S b k ws off).length = ws.length ∧ WordsOK S (shiftUp S b k ws off) ∧
    (∀ j, Span S b j → get S b (shiftUp S b k ws off) j =
      if off < j ∧ j ≤ off + k then get S b ws (j - 1) else get S b ws j) ∧
    ∀ p, (p < (off + 1) * b ∨ (off + k + 1) * b ≤ p) →
      (val S (shiftUp S b k ws off)).testBit p = (val S ws).testBit p := by
  induction k generalizing ws with
  | zero =>
    refine ⟨rfl, hw, ?_, fun _ _ => rfl⟩
    intro j _
    have : ¬ (off < j ∧ j ≤ off + 0) := by omega
    rw [if_neg this]; rfl
  | succ k ih =>
    obtain ⟨hlen1, hok1, hg1, hbits⟩ :=
      move_spec (off + k + 1) (off + k) hS hw (hf _ (by omega)) (hf.span (by omega))
    obtain ⟨hl, hok, hget, hout⟩ := ih hok1 (fitsN_of_length hlen1 (fitsN_mono hf (by omega)))
    rw [shiftUp]
    refine ⟨by rw [hl, hlen1], hok, ?_, ?_⟩
    · intro j hj
      rw [hget j hj]
      by_cases h1 : off < j ∧ j ≤ off + k
      · rw [if_pos h1, if_pos (by omega), hg1 _ (hf.span (by omega)), if_neg (by omega)]
      · rw [if_neg h1, hg1 j hj]
        by_cases h3 : j = off + k + 1
        · rw [if_pos h3, if_pos (by omega), h3]
          rfl
        · rw [if_neg h3, if_neg (by omega)]
    · intro p hp
      have hA : (off + 1) * b ≤ (off + k + 1) * b := Nat.mul_le_mul_right b (by omega)
      have hB : (off + (k + 1) + 1) * b = (off + k + 1) * b + b := Nat.succ_mul (off + k + 1) b
      rw [hB] at hp
      rw [hout p (by omega)]
      exact hbits p (by omega)

theorem shiftDown_spec (hS : 0 < S) (k : Nat) (i : Nat)
    (hw : WordsOK S ws) (hf : FitsN S b ws (i + k + 1)) :
    (shiftDown S b k ws i).length = ws.length ∧ WordsOK S (shiftDown S b k ws i) ∧
    (∀ j, Span S b j → get S b (shiftDown S b k ws i) j =
      if i ≤ j ∧ j < i + k then get S b ws (j + 1) else get S b ws j) ∧
    ∀ p, (p < i * b ∨ (i + k) * b ≤ p) → (val S (shiftDown S b k ws i)).testBit p = (val S ws).testBit p := by
  induction k generalizing ws i with
  | zero =>
    refine ⟨rfl, hw, ?_, fun _ _ => rfl⟩
    intro j _
    have : ¬ (i ≤ j ∧ j < i + 0) := by omega
    rw [if_neg this]; rfl
  | succ k ih =>
    obtain ⟨hlen1, hok1, hg1, hbits⟩ := move_spec i (i + 1) hS hw (hf _ (by omega)) (hf.span (by omega))
    obtain ⟨hl, hok, hget, hout⟩ := ih (i + 1) hok1 (fitsN_of_length hlen1 (fitsN_mono hf (by omega)))
    rw [shiftDown]
    refine ⟨by rw [hl, hlen1], hok, ?_, ?_⟩
    · intro j hj
      rw [hget j hj]
      by_cases h1 : i + 1 ≤ j ∧ j < i + 1 + k
      · rw [if_pos h1, if_pos (by omega), hg1 _ (hf.span (by omega)), if_neg (by omega)]
      · rw [if_neg h1, hg1 j hj]
        by_cases h3 : j = i
        · rw [if_pos h3, if_pos (by omega), h3]
        · rw [if_neg h3, if_neg (by omega)]
    · intro p hp
      have h1 : (i + 1) * b = i * b + b := Nat.succ_mul i b
      have h2 : (i + 1) * b ≤ (i + (k + 1)) * b := Nat.mul_le_mul_right b (by omega)
      have h3 : (i + 1 + k) * b = (i + (k + 1)) * b := by rw [Nat.add_right_comm, Nat.add_assoc]
      rw [hout p (by omega)]
      exact hbits p (by omega)

theorem insertAt_spec (hS : 0 < S) (len off v : Nat)
    (hoff : off ≤ len) (hw : WordsOK S ws) (hf : FitsN S b ws (len + 1)) (hv : v < 2 ^ b) :
    (insertAt S b ws len off v).length = ws.length ∧ WordsOK S (insertAt S b ws len off v) ∧
    (∀ j, Span S b j → get S b (insertAt S b ws len off v) j =
      if j = off then v else if off < j ∧ j ≤ len then get S b ws (j - 1) else get S b ws j) ∧
    ∀ p, (p < off * b ∨ (len + 1) * b ≤ p) →
      (val S (insertAt S b ws len off v)).testBit p = (val S ws).testBit p := by
  have e : off + (len - off) = len := by omega
  obtain ⟨hl, hok, hget, hout⟩ := shiftUp_spec hS (len - off) off hw (by rw [e]; exact hf)
  rw [e] at hget hout
  have hfit : Fits S b off (shiftUp S b (len - off) ws off) := fits_of_length hl (hf off (by omega))
  obtain ⟨_, hok2, hl2⟩ := val_set off v hS hv hok hfit
  unfold insertAt
  refine ⟨by rw [hl2, hl], hok2, ?_, ?_⟩
  · intro j hj
    by_cases h1 : j = off
    · rw [if_pos h1, h1]
      exact get_set_self off v hS hv hok hfit
    · rw [if_neg h1, get_set_ne off j v hS hv hok hfit (Ne.symm h1) hj, hget j hj]
  · intro p hp
    have h1 : (off + 1) * b = off * b + b := Nat.succ_mul off b
    have h2 : (off + 1) * b ≤ (len + 1) * b := Nat.mul_le_mul_right b (by omega)
    rw [set_bits_outside off v hS hv hok hfit p (by omega)]
    exact hout p (by omega)

theorem elems_insertAt (hS : 0 < S) (len off v : Nat)
    (hoff : off ≤ len) (hw : WordsOK S ws) (hf : FitsN S b ws (len + 1)) (hv : v < 2 ^ b) :
    elems S b (insertAt S b ws len off v) (len + 1) =
      (elems S b ws len).take off ++ v :: (elems S b ws len).drop off := by
  obtain ⟨_, _, hget, _⟩ := insertAt_spec hS len off v hoff hw hf hv
  apply elems_eq_of
  · simp [elems_length]; omega
  · intro i hi
    have hi' : i < len + 1 := by
      simp [elems_length] at hi; omega
    rw [hget i (hf.span hi')]
    rw [List.getElem_append]
    simp only [List.length_take, elems_length, Nat.min_eq_left hoff]
    by_cases h1 : i < off
    · have h2 : ¬ i = off := by omega
      have h3 : ¬ (off < i ∧ i ≤ len) := by omega
      rw [dif_pos h1, if_neg h2, if_neg h3, List.getElem_take, elems_getElem]
    · rw [dif_neg h1]
      by_cases h2 : i = off
      · rw [if_pos h2]
        simp [h2]
      · have h3 : off < i ∧ i ≤ len := by omega
        rw [if_neg h2, if_pos h3]
        obtain ⟨d, hd⟩ : ∃ d, i = off + (d + 1) := ⟨i - off - 1, by omega⟩
        subst hd
        have e : off + (d + 1) - off = d + 1 := by omega
        simp only [e, List.getElem_cons_succ, List.getElem_drop, elems_getElem]
        rfl

theorem deleteAt_spec (hS : 0 < S) (len off : Nat)
    (hoff : off < len) (hw : WordsOK S ws) (hf : FitsN S b ws len) :
    (deleteAt S b ws len off).length = ws.length ∧ WordsOK S (deleteAt S b ws len off) ∧
    (∀ j, Span S b j → get S b (deleteAt S b ws len off) j =
      if off ≤ j ∧ j + 1 < len then get S b ws (j + 1) else get S b ws j) ∧
    ∀ p, (p < off * b ∨ (len - 1) * b ≤ p) →
      (val S (deleteAt S b ws len off)).testBit p = (val S ws).testBit p := by
  have e : off + (len - 1 - off) = len - 1 := by omega
  obtain ⟨hl, hok, hget, hout⟩ := shiftDown_spec hS (len - 1 - off) off hw
    (by rw [e, Nat.sub_add_cancel (by omega)]; exact hf)
  rw [e] at hout
  unfold deleteAt
  refine ⟨hl, hok, ?_, hout⟩
  intro j hj
  rw [hget j hj]
  by_cases h2 : off ≤ j ∧ j + 1 < len
  · rw [if_pos h2, if_pos (by omega)]
  · rw [if_neg h2, if_neg (by omega)]

theorem elems_deleteAt (hS : 0 < S) (len off : Nat)
    (hoff : off < len) (hw : WordsOK S ws) (hf : FitsN S b ws len) :
    elems S b (deleteAt S b ws len off) (len - 1) = (elems S b ws len).eraseIdx off := by
  obtain ⟨_, _, hget, _⟩ := deleteAt_spec hS len off hoff hw hf
  have hlen : ((elems S b ws len).eraseIdx off).length = len - 1 := by
    rw [List.length_eraseIdx, elems_length, if_pos hoff]
  apply elems_eq_of _ _ hlen
  intro i hi
  have hi' : i < len - 1 := by rw [hlen] at hi; exact hi
  rw [hget i (hf.span (by omega)), List.getElem_eraseIdx]
  by_cases h1 : i < off
  · have h2 : ¬ (off ≤ i ∧ i + 1 < len) := by omega
    rw [dif_pos h1, if_neg h2, elems_getElem]
  · have h2 : off ≤ i ∧ i + 1 < len := by omega
    rw [dif_neg h1, if_pos h2, elems_getElem]

theorem elems_deleteAt_take_drop (S b : Nat) (hS : 0 < S) (hb : 1 ≤ b) (ws : List Nat) (len off : Nat)
    (hoff : off < len) (hw : WordsOK S ws) (hf : FitsN S b ws len) :
    elems S b (deleteAt S b ws len off) (len - 1) =
      (elems S b ws len).take off ++ (elems S b ws len).drop (off + 1) := by
  rw [elems_deleteAt hS len off hoff hw hf, List.eraseIdx_eq_take_drop_succ]

theorem bsearchAux_spec (len v : Nat)
    (hsorted : ∀ k k', k ≤ k' → k' < len → get S b ws k ≤ get S b ws k') :
    ∀ fuel lo hi, lo ≤ hi → hi ≤ len → hi - lo < fuel →
      (∀ k, k < lo → get S b ws k < v) → (∀ k, hi ≤ k → k < len → v ≤ get S b ws k) →
      bsearchAux S b ws v fuel lo hi ≤ len ∧
      (∀ k, k < bsearchAux S b ws v fuel lo hi → get S b ws k < v) ∧
      (∀ k, bsearchAux S b ws v fuel lo hi ≤ k → k < len → v ≤ get S b ws k) := by
  intro fuel
  induction fuel with
  | zero => intro lo hi _ _ h; omega
  | succ f ih =>
    intro lo hi hle hhi hfuel hlo hup
    simp only [bsearchAux]
    by_cases hlt : lo < hi
    · rw [if_pos hlt]
      by_cases hm : get S b ws ((lo + hi) / 2) < v
      · rw [if_pos hm]
        apply ih ((lo + hi) / 2 + 1) hi (by omega) hhi (by omega)
        · intro k hk
          have hmid : (lo + hi) / 2 < len := by omega
          have := hsorted k ((lo + hi) / 2) (by omega) hmid
          omega
        · exact hup
      · rw [if_neg hm]
        apply ih lo ((lo + hi) / 2) (by omega) (by omega) (by omega) hlo
        intro k hk hkl
        have := hsorted ((lo + hi) / 2) k hk hkl
        omega
    · rw [if_neg hlt]
      have : lo = hi := by omega
      subst this
      exact ⟨hhi, hlo, hup⟩

theorem bsearch_spec (len v : Nat)
    (hsorted : (elems S b ws len).Pairwise (· ≤ ·)) :
    bsearch S b ws len v ≤ len ∧
    (∀ k, k < bsearch S b ws len v → get S b ws k < v) ∧
    (∀ k, bsearch S b ws len v ≤ k → k < len → v ≤ get S b ws k) := by
  rw [sorted_elems_iff] at hsorted
  exact bsearchAux_spec len v hsorted (len + 1) 0 len (by omega) (by omega) (by omega)
    (by intro k hk; omega) (by intro k h1 h2; omega)

theorem bsearchAux_le (S b : Nat) (ws : List Nat) (v : Nat) :
    ∀ fuel lo hi, lo ≤ hi → bsearchAux S b ws v fuel lo hi ≤ hi := by
  intro fuel
  induction fuel with
  | zero => intro lo hi h; exact h
  | succ f ih =>
    intro lo hi h
    simp only [bsearchAux]
    by_cases c : lo < hi
    · rw [if_pos c]
      by_cases d : get S b ws ((lo + hi) / 2) < v
      · rw [if_pos d]; exact ih _ _ (by omega)
      · rw [if_neg d]; exact Nat.le_trans (ih _ _ (by omega)) (by omega)
    · rw [if_neg c]; exact h

theorem bsearch_le (S b : Nat) (ws : List Nat) (len v : Nat) : bsearch S b ws len v ≤ len :=
  bsearchAux_le S b ws v _ 0 len (by omega)

theorem elems_insertSorted (hS : 0 < S) (len v : Nat)
    (hw : WordsOK S ws) (hf : FitsN S b ws (len + 1)) (hv : v < 2 ^ b) :
    elems S b (insertSorted S b ws len v) (len + 1) =
      (elems S b ws len).take (bsearch S b ws len v) ++ v :: (elems S b ws len).drop (bsearch S b ws len v) :=
  elems_insertAt hS len _ v (bsearch_le S b ws len v) hw hf hv

theorem insertSorted_sorted_perm (hS : 0 < S) (len v : Nat)
    (hw : WordsOK S ws) (hf : FitsN S b ws (len + 1)) (hv : v < 2 ^ b)
    (hsorted : (elems S b ws len).Pairwise (· ≤ ·)) :
    (elems S b (insertSorted S b ws len v) (len + 1)).Pairwise (· ≤ ·) ∧
    (elems S b (insertSorted S b ws len v) (len + 1)).Perm (v :: elems S b ws len) := by
  obtain ⟨hm, hlow, hhigh⟩ := bsearch_spec len v hsorted
  rw [elems_insertSorted hS len v hw hf hv]
  generalize bsearch S b ws len v = m at *
  have htake : ∀ a, a ∈ (elems S b ws len).take m → a < v := by
    intro a ha
    rw [List.mem_take_iff_getElem] at ha
    obtain ⟨j, hj, rfl⟩ := ha
    rw [elems_getElem]
    exact hlow j (by omega)
  have hdrop : ∀ a, a ∈ (elems S b ws len).drop m → v ≤ a := by
    intro a ha
    rw [List.mem_drop_iff_getElem] at ha
    obtain ⟨j, hj, rfl⟩ := ha
    rw [elems_getElem]
    rw [elems_length] at hj
    exact hhigh (m + j) (by omega) (by omega)
  constructor
  · rw [List.pairwise_append, List.pairwise_cons]
    refine ⟨hsorted.sublist (List.take_sublist _ _), ⟨hdrop, hsorted.sublist (List.drop_sublist _ _)⟩, ?_⟩
    intro a ha c hc
    have h1 := htake a ha
    rcases List.mem_cons.mp hc with h | h
    · rw [h]; exact Nat.le_of_lt h1
    · have h2 := hdrop c h
      exact Nat.le_trans (Nat.le_of_lt h1) h2
  · have h := @List.perm_middle _ v ((elems S b ws len).take m) ((elems S b ws len).drop m)
    rw [List.take_append_drop] at h
    exact h

theorem member_eq (len v : Nat) :
    member S b ws len v =
      if bsearch S b ws len v < len ∧ get S b ws (bsearch S b ws len v) = v
      then (bsearch S b ws len v : Int) else -1 := rfl

theorem member_cond_iff (len v : Nat)
    (hsorted : (elems S b ws len).Pairwise (· ≤ ·)) :
    (bsearch S b ws len v < len ∧ get S b ws (bsearch S b ws len v) = v) ↔ v ∈ elems S b ws len := by
  obtain ⟨hm, hlow, hhigh⟩ := bsearch_spec len v hsorted
  rw [mem_elems]
  constructor
  · intro ⟨h1, h2⟩
    exact ⟨_, h1, h2⟩
  · intro ⟨k, hk, hkv⟩
    have hmk : bsearch S b ws len v ≤ k := Nat.le_of_not_lt fun h => by have := hlow k h; omega
    have hml : bsearch S b ws len v < len := by omega
    refine ⟨hml, ?_⟩
    have h1 := hhigh _ (Nat.le_refl _) hml
    have h2 := (sorted_elems_iff len).mp hsorted _ k hmk hk
    omega

theorem member_nonneg_iff (len v : Nat)
    (hsorted : (elems S b ws len).Pairwise (· ≤ ·)) :
    member S b ws len v ≥ 0 ↔ v ∈ elems S b ws len := by
  rw [← member_cond_iff len v hsorted, member_eq]
  by_cases h : bsearch S b ws len v < len ∧ get S b ws (bsearch S b ws len v) = v
  · rw [if_pos h]
    exact ⟨fun _ => h, fun _ => Int.natCast_nonneg _⟩
  · rw [if_neg h]
    exact ⟨fun h' => absurd h' (by omega), fun h' => absurd h' h⟩

theorem member_first (len v : Nat)
    (hsorted : (elems S b ws len).Pairwise (· ≤ ·)) (h : member S b ws len v ≥ 0) :
    ∃ m : Nat, member S b ws len v = (m : Int) ∧ m < len ∧ get S b ws m = v ∧
      ∀ k, k < m → get S b ws k ≠ v := by
  obtain ⟨hm, hlow, hhigh⟩ := bsearch_spec len v hsorted
  rw [member_eq] at h ⊢
  by_cases hc : bsearch S b ws len v < len ∧ get S b ws (bsearch S b ws len v) = v
  · rw [if_pos hc]
    refine ⟨_, rfl, hc.1, hc.2, ?_⟩
    intro k hk
    have := hlow k hk
    omega
  · rw [if_neg hc] at h; omega

theorem member_neg_of_not_mem (len v : Nat)
    (hsorted : (elems S b ws len).Pairwise (· ≤ ·)) (h : v ∉ elems S b ws len) :
    member S b ws len v = -1 := by
  rw [member_eq, if_neg]
  rw [member_cond_iff len v hsorted]; exact h

theorem erase_eq_eraseIdx_first (l : List Nat) (v m : Nat) (hm : l[m]? = some v)
    (hfirst : ∀ k, k < m → l[k]? ≠ some v) : l.erase v = l.eraseIdx m := by
  induction l generalizing m with
  | nil => simp at hm
  | cons a t ih =>
    cases m with
    | zero =>
      simp at hm
      simp [hm]
    | succ m =>
      have ha : a ≠ v := by
        have := hfirst 0 (by omega)
        simpa using this
      have hm' : t[m]? = some v := by simpa using hm
      have hf' : ∀ k, k < m → t[k]? ≠ some v := by
        intro k hk
        have := hfirst (k + 1) (by omega)
        simpa using this
      rw [List.erase_cons, List.eraseIdx_cons_succ, ih m hm' hf']
      have : (a == v) = false := by simpa using ha
      rw [this]; rfl

theorem deleteMember_mem (hS : 0 < S) (len v : Nat)
    (hw : WordsOK S ws) (hf : FitsN S b ws len)
    (hsorted : (elems S b ws len).Pairwise (· ≤ ·)) (hmem : v ∈ elems S b ws len) :
    (deleteMember S b ws len v).2 = true ∧
    (deleteMember S b ws len v).1.length = ws.length ∧
    WordsOK S (deleteMember S b ws len v).1 ∧
    elems S b (deleteMember S b ws len v).1 (len - 1) = (elems S b ws len).erase v ∧
    (elems S b (deleteMember S b ws len v).1 (len - 1)).Pairwise (· ≤ ·) := by
  have hnn := (member_nonneg_iff len v hsorted).mpr hmem
  obtain ⟨m, hmeq, hml, hget, hfirst⟩ := member_first len v hsorted hnn
  have hdm : deleteMember S b ws len v = (deleteAt S b ws len m, true) := by
    unfold deleteMember
    simp only []
    rw [if_pos hnn, hmeq]; rfl
  obtain ⟨hl, hok, _, _⟩ := deleteAt_spec hS len m hml hw hf
  have hel : elems S b (deleteAt S b ws len m) (len - 1) = (elems S b ws len).erase v := by
    rw [elems_deleteAt hS len m hml hw hf]
    symm
    apply erase_eq_eraseIdx_first
    · rw [List.getElem?_eq_getElem (by rw [elems_length]; exact hml), elems_getElem, hget]
    · intro k hk
      rw [List.getElem?_eq_getElem (by rw [elems_length]; omega), elems_getElem]
      intro h
      exact hfirst k hk (Option.some.inj h)
  rw [hdm]
  refine ⟨rfl, hl, hok, hel, ?_⟩
  show (elems S b (deleteAt S b ws len m) (len - 1)).Pairwise (· ≤ ·)
  rw [hel]
  exact hsorted.sublist List.erase_sublist

theorem deleteMember_not_mem (len v : Nat)
    (hsorted : (elems S b ws len).Pairwise (· ≤ ·)) (hmem : v ∉ elems S b ws len) :
    deleteMember S b ws len v = (ws, false) := by
  unfold deleteMember
  simp only []
  rw [member_neg_of_not_mem len v hsorted hmem, if_neg (by omega)]

theorem setIncr_spec (i d : Nat) (hS : 0 < S) (hw : WordsOK S ws)
    (hf : Fits S b i ws) (hd : get S b ws i + d < 2 ^ b) :
    WordsOK S (setIncr S b ws i d) ∧ get S b (setIncr S b ws i d) i = get S b ws i + d ∧
    ∀ j, i ≠ j → Span S b j → get S b (setIncr S b ws i d) j = get S b ws j :=
  ⟨(val_set i _ hS hd hw hf).2.1, get_set_self i _ hS hd hw hf,
   fun j hij hj => get_set_ne i j _ hS hd hw hf hij hj⟩

theorem setHalf_spec (i : Nat) (hS : 0 < S) (hw : WordsOK S ws)
    (hf : Fits S b i ws) :
    WordsOK S (setHalf S b ws i) ∧ get S b (setHalf S b ws i) i = get S b ws i / 2 ∧
    ∀ j, i ≠ j → Span S b j → get S b (setHalf S b ws i) j = get S b ws j := by
  have hv : get S b ws i / 2 < 2 ^ b := by
    have := get_lt i hS hw hf.2
    omega
  unfold setHalf
  split
  · rename_i h0
    exact ⟨hw, by rw [h0], fun _ _ _ => rfl⟩
  · exact ⟨(val_set i _ hS hv hw hf).2.1, get_set_self i _ hS hv hw hf,
      fun j hij hj => get_set_ne i j _ hS hv hw hf hij hj⟩

theorem insertAt_beyond (hS : 0 < S) (len off v : Nat)
    (hoff : off ≤ len) (hw : WordsOK S ws) (hf : FitsN S b ws (len + 1)) (hv : v < 2 ^ b)
    (j : Nat) (hj : len < j) (hspan : Span S b j) :
    get S b (insertAt S b ws len off v) j = get S b ws j := by
  obtain ⟨_, _, hget, _⟩ := insertAt_spec hS len off v hoff hw hf hv
  rw [hget j hspan, if_neg (by omega), if_neg (by omega)]

/-- from index `len - 1` on nothing moves: a stale copy of the last element stays at `len - 1` -/
theorem deleteAt_beyond (S b : Nat) (hS : 0 < S) (hb : 1 ≤ b) (ws : List Nat) (len off : Nat)
    (hoff : off < len) (hw : WordsOK S ws) (hf : FitsN S b ws len)
    (j : Nat) (hj : len ≤ j + 1) (hspan : Span S b j) :
    get S b (deleteAt S b ws len off) j = get S b ws j := by
  obtain ⟨_, _, hget, _⟩ := deleteAt_spec hS len off hoff hw hf
  rw [hget j hspan, if_neg (by omega)]

theorem insertAt_below (S b : Nat) (hS : 0 < S) (hb : 1 ≤ b) (ws : List Nat) (len off v : Nat)
    (hoff : off ≤ len) (hw : WordsOK S ws) (hf : FitsN S b ws (len + 1)) (hv : v < 2 ^ b)
    (j : Nat) (hj : j < off) :
    get S b (insertAt S b ws len off v) j = get S b ws j := by
  obtain ⟨_, _, hget, _⟩ := insertAt_spec hS len off v hoff hw hf hv
  rw [hget j (hf.span (by omega)), if_neg (by omega), if_neg (by omega)]

theorem fitsN_of_bits (n : Nat) (hS : 0 < S) (hb : 1 ≤ b)
    (hbits : n * b ≤ S * ws.length) (hspan : ∀ i, i < n → Span S b i) : FitsN S b ws n := by
  intro i hi
  obtain ⟨hsb, heq⟩ := pos_of (i * b) S hS
  have h1 : (i + 1) * b ≤ n * b := Nat.mul_le_mul_right b hi
  rw [Nat.succ_mul] at h1
  refine ⟨?_, hspan i hi⟩
  generalize i * b / S = j at *
  generalize i * b % S = sb at *
  by_cases hc : b ≤ S - sb
  · rw [if_pos hc]
    rcases Nat.lt_or_ge j ws.length with h | h
    · exact h
    · have h2 : ws.length * S ≤ j * S := Nat.mul_le_mul_right S h
      rw [Nat.mul_comm ws.length S] at h2
      omega
  · rw [if_neg hc]
    rcases Nat.lt_or_ge (j + 1) ws.length with h | h
    · exact h
    · have h2 : ws.length * S ≤ (j + 1) * S := Nat.mul_le_mul_right S h
      rw [Nat.mul_comm ws.length S, Nat.succ_mul] at h2
      omega

theorem fitsN_of_bits_le (S b n : Nat) (ws : List Nat) (hS : 0 < S) (hb : 1 ≤ b) (hbS : b ≤ S)
    (hbits : n * b ≤ S * ws.length) : FitsN S b ws n := by
  apply fitsN_of_bits n hS hb hbits
  intro i _
  have : i * b % S < S := Nat.mod_lt _ hS
  unfold Span; omega

theorem insertIdx_eq_take_cons_drop (l : List Nat) (n a : Nat) (hn : n ≤ l.length) :
    l.insertIdx n a = l.take n ++ a :: l.drop n := by
  induction l generalizing n with
  | nil =>
    have : n = 0 := by simpa using hn
    subst this; simp
  | cons x t ih =>
    cases n with
    | zero => simp
    | succ n =>
      have hn' : n ≤ t.length := by simpa using hn
      rw [List.insertIdx_succ_cons, ih n hn']
      simp

theorem elems_insertAt_insertIdx (hS : 0 < S) (len off v : Nat)
    (hoff : off ≤ len) (hw : WordsOK S ws) (hf : FitsN S b ws (len + 1)) (hv : v < 2 ^ b) :
    elems S b (insertAt S b ws len off v) (len + 1) = (elems S b ws len).insertIdx off v := by
  rw [elems_insertAt hS len off v hoff hw hf hv,
    insertIdx_eq_take_cons_drop _ _ _ (by rw [elems_length]; exact hoff)]

/-- non-vacuity: 12-bit values in 8-bit slots (the configuration the tree instantiates), 3 sorted
    elements plus one spare in 6 slots; the sorted insert lands at index 1 and moves elements across
    slot boundaries; the stale fourth element (0xfff) is overwritten, nothing else -/
example : FitsN 8 12 [33, 225, 61, 188, 250, 255] 4 := by
  apply fitsN_of_bits 4 (by omega) (by omega) (by decide)
  intro i hi
  unfold Span; omega
example : WordsOK 8 [33, 225, 61, 188, 250, 255] := by unfold WordsOK; decide
example : elems 8 12 [33, 225, 61, 188, 250, 255] 3 = [0x121, 0x3de, 0xabc] := by decide
example : elems 8 12 (insertSorted 8 12 [33, 225, 61, 188, 250, 255] 3 0x200) 4 =
    [0x121, 0x200, 0x3de, 0xabc] := by decide
example : deleteMember 8 12 [33, 225, 61, 188, 250, 255] 3 0x3de = ([33, 193, 171, 188, 250, 255], true) ∧
    elems 8 12 [33, 193, 171, 188, 250, 255] 2 = [0x121, 0xabc] := by decide

end Varint.Packed
