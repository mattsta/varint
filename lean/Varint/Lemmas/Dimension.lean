import Varint.Model.Dimension
import Varint.Lemmas.Bytes
/- Lemmas about the dimension model: the level search of `pack`, the widths in the pair byte, byte-range writes and
   reads behind the header, cell index injectivity. -/
namespace Varint.Dim

/-- the level search of `packDim` as a loop: the first of the `n` levels `d, d + 1, …` whose `16 ^ level` exceeds `m` -/
def firstLevel (m : Nat) : Nat → Nat → Option Nat
  | 0, _ => none
  | n + 1, d => if m < 16 ^ d then some d else firstLevel m n (d + 1)

theorem packDim_eq_firstLevel (m : Nat) : packDim m = firstLevel m 8 1 := rfl

theorem firstLevel_some (m : Nat) : ∀ n d d', firstLevel m n d = some d' → d ≤ d' ∧ d' < d + n ∧ m < 16 ^ d' := by
  intro n
  induction n with
  | zero => intro d d' h; cases h
  | succ n ih =>
    intro d d' h
    unfold firstLevel at h
    split at h
    · cases h
      exact ⟨Nat.le_refl _, by omega, by assumption⟩
    · obtain ⟨h1, h2, h3⟩ := ih (d + 1) d' h
      exact ⟨by omega, by omega, h3⟩

theorem firstLevel_none (m : Nat) : ∀ n d, firstLevel m (n + 1) d = none → 16 ^ (d + n) ≤ m := by
  intro n
  induction n with
  | zero =>
    intro d h
    unfold firstLevel at h
    split at h
    · cases h
    · exact Nat.le_of_not_lt (by assumption)
  | succ n ih =>
    intro d h
    unfold firstLevel at h
    split at h
    · cases h
    · rw [show d + (n + 1) = d + 1 + n by omega]
      exact ih (d + 1) h

theorem packDim_some (m d : Nat) (h : packDim m = some d) : 1 ≤ d ∧ d ≤ 8 ∧ m < 16 ^ d := by
  obtain ⟨h1, h2, h3⟩ := firstLevel_some m 8 1 d h
  exact ⟨h1, by omega, h3⟩

/-- `packDim` fails exactly from `16 ^ 8 = 2 ^ 32` on -/
theorem packDim_eq_none_iff (m : Nat) : packDim m = none ↔ 2 ^ 32 ≤ m := by
  constructor
  · intro h
    exact firstLevel_none m 7 1 h
  · intro h
    cases hd : packDim m with
    | none => rfl
    | some d =>
      obtain ⟨_, h8, hlt⟩ := packDim_some m d hd
      have : 16 ^ d ≤ 16 ^ 8 := Nat.pow_le_pow_right (by omega) h8
      have e : (16 : Nat) ^ 8 = 2 ^ 32 := rfl
      omega

theorem pow16 (d : Nat) : (16 : Nat) ^ d = 2 ^ (4 * d) := by rw [Nat.pow_mul]

/-- at the level `packDim` finds, both coordinates fit its `4 * d ≤ 32` bits, so the `% 2 ^ 64` of `pack` loses nothing -/
theorem pack_of_packDim (r c d : Nat) (h : packDim (max r c) = some d) :
    pack r c = some (r * 16 ^ d + c, d) ∧ r < 16 ^ d ∧ c < 16 ^ d ∧ r * 16 ^ d + c < 2 ^ 64 := by
  obtain ⟨_, h8, hlt⟩ := packDim_some _ d h
  have h32 : 16 ^ d ≤ 2 ^ 32 := Nat.pow_le_pow_right (n := 16) (j := 8) (by omega) h8
  have hr : r < 16 ^ d := by omega
  have hc : c < 16 ^ d := by omega
  have hsmall : r * 16 ^ d + c < 2 ^ 64 := by
    have : r * 16 ^ d ≤ (2 ^ 32 - 1) * 2 ^ 32 := Nat.mul_le_mul (by omega) h32
    omega
  refine ⟨?_, hr, hc, hsmall⟩
  unfold pack
  rw [h, Option.map_some, Nat.mod_eq_of_lt hsmall]

theorem unpack_mul_add (r c d : Nat) (hc : c < 16 ^ d) : unpack (r * 16 ^ d + c) d = (r, c) := by
  unfold unpack
  rw [Nat.mul_comm, Nat.mul_add_div (Nat.pow_pos (by omega)), Nat.div_eq_of_lt hc, Nat.mul_add_mod,
    Nat.mod_eq_of_lt hc, Nat.add_zero]

theorem widthRows_le_8 {rows : Nat} (h : rows < 2 ^ 64) : widthRows rows ≤ 8 := by
  unfold widthRows
  split
  · omega
  · exact extLen_le_8 h

theorem pairByte_widths (wr wc : Nat) (s : Bool) (hwr : wr ≤ 8) (hwc1 : 1 ≤ wc) (hwc8 : wc ≤ 8) :
    rowWidthOf (pairByte wr wc s) = wr ∧ colWidthOf (pairByte wr wc s) = wc ∧ pairByte wr wc s < 256 := by
  unfold rowWidthOf colWidthOf pairByte
  cases s <;> simp <;> omega

theorem colWidthOf_pos (dim : Nat) : 1 ≤ colWidthOf dim := by
  unfold colWidthOf
  omega

theorem colWidthOf_le_8 (dim : Nat) : colWidthOf dim ≤ 8 := by
  unfold colWidthOf
  omega

theorem writeAt_some {buf bs out : List Nat} {off : Nat} (h : writeAt buf off bs = some out) :
    off + bs.length ≤ buf.length ∧ out = buf.take off ++ bs ++ buf.drop (off + bs.length) := by
  unfold writeAt at h
  split at h
  · exact ⟨by assumption, (Option.some.inj h).symm⟩
  · cases h

theorem writeAt_length (buf : List Nat) (off : Nat) (bs out : List Nat) (h : writeAt buf off bs = some out) :
    out.length = buf.length := by
  obtain ⟨hle, rfl⟩ := writeAt_some h
  simp only [List.length_append, List.length_take, List.length_drop]
  omega

theorem writeAt_bytes (buf : List Nat) (off : Nat) (bs out : List Nat) (h : writeAt buf off bs = some out)
    (hbuf : ∀ b ∈ buf, b < 256) (hbs : ∀ b ∈ bs, b < 256) : ∀ b ∈ out, b < 256 := by
  obtain ⟨_, rfl⟩ := writeAt_some h
  intro b hm
  simp only [List.mem_append] at hm
  rcases hm with (hm | hm) | hm
  · exact hbuf b (List.mem_of_mem_take hm)
  · exact hbs b hm
  · exact hbuf b (List.mem_of_mem_drop hm)

theorem readAt_writeAt_same (buf : List Nat) (off : Nat) (bs out : List Nat) (h : writeAt buf off bs = some out) :
    readAt out off bs.length = some bs := by
  obtain ⟨hle, rfl⟩ := writeAt_some h
  unfold readAt
  rw [List.append_assoc, List.drop_left' (by simp; omega), takeExact_append _ _ rfl]

theorem readAt_writeAt_disjoint (buf : List Nat) (off : Nat) (bs out : List Nat) (off' n : Nat)
    (h : writeAt buf off bs = some out) (hd : off' + n ≤ off ∨ off + bs.length ≤ off') :
    readAt out off' n = readAt buf off' n := by
  have hlen := writeAt_length buf off bs out h
  obtain ⟨hle, rfl⟩ := writeAt_some h
  unfold readAt takeExact
  simp only [List.length_drop, hlen]
  by_cases hfit : n ≤ buf.length - off'
  · rw [if_pos hfit, if_pos hfit]
    congr 1
    apply List.ext_getElem?
    intro i
    simp only [List.getElem?_take, List.getElem?_drop]
    by_cases hi : i < n
    · simp only [hi, if_true]
      rcases hd with h1 | h1
      · -- before the written range
        rw [List.append_assoc, List.getElem?_append_left (by simp; omega), List.getElem?_take]
        simp [show off' + i < off by omega]
      · -- after the written range
        rw [List.getElem?_append_right (by simp; omega)]
        simp only [List.length_append, List.length_take, List.getElem?_drop]
        congr 1
        omega
    · simp [hi]
  · rw [if_neg hfit, if_neg hfit]

theorem take_writeAt (buf : List Nat) (off : Nat) (bs out : List Nat) (k : Nat)
    (h : writeAt buf off bs = some out) (hk : k ≤ off) : out.take k = buf.take k := by
  obtain ⟨hle, rfl⟩ := writeAt_some h
  rw [List.append_assoc, List.take_append_of_le_length (by simp; omega), List.take_take]
  congr 1; omega

theorem pairDecode_congr (a b : List Nat) (dim : Nat) (h : a.take (hdrLen dim) = b.take (hdrLen dim))
    (hl : a.length = b.length) : pairDecode a dim = pairDecode b dim := by
  have h1 : a.take (rowWidthOf dim) = b.take (rowWidthOf dim) := by
    have := congrArg (List.take (rowWidthOf dim)) h
    rwa [List.take_take, List.take_take, Nat.min_eq_left (by unfold hdrLen; omega)] at this
  have h2 : (a.drop (rowWidthOf dim)).take (colWidthOf dim) = (b.drop (rowWidthOf dim)).take (colWidthOf dim) := by
    have := congrArg (List.drop (rowWidthOf dim)) h
    simp only [List.drop_take] at this
    unfold hdrLen at this
    have e : rowWidthOf dim + colWidthOf dim - rowWidthOf dim = colWidthOf dim := by omega
    rwa [e] at this
  unfold pairDecode
  simp only []
  rw [takeExact_congr h1 hl, takeExact_congr h2 (by rw [List.length_drop, List.length_drop, hl])]

theorem cellIndex_congr (a b : List Nat) (dim row col : Nat) (h : a.take (hdrLen dim) = b.take (hdrLen dim))
    (hl : a.length = b.length) : cellIndex a dim row col = cellIndex b dim row col := by
  unfold cellIndex
  rw [pairDecode_congr a b dim h hl]

theorem setEntry_some (buf out : List Nat) (dim row col v w : Nat) (h : setEntry buf dim row col v w = some out) :
    ∃ k, cellIndex buf dim row col = some k ∧ writeAt buf (hdrLen dim + k * w) (leBytes w v) = some out ∧
      out.length = buf.length ∧ out.take (hdrLen dim) = buf.take (hdrLen dim) ∧
      ∀ r c, cellIndex out dim r c = cellIndex buf dim r c := by
  unfold setEntry at h
  cases hk : cellIndex buf dim row col with
  | none => rw [hk] at h; cases h
  | some k =>
    rw [hk] at h
    have hlen := writeAt_length _ _ _ _ h
    have htake := take_writeAt _ _ _ _ (hdrLen dim) h (by omega)
    exact ⟨k, rfl, h, hlen, htake, fun r c => cellIndex_congr out buf dim r c htake hlen⟩

theorem index_inj (cols r c r' c' : Nat) (hc : c < cols) (hc' : c' < cols) (h : r * cols + c = r' * cols + c') :
    r = r' ∧ c = c' := by
  have hpos : 0 < cols := by omega
  have h1 : (r * cols + c) / cols = r := by
    rw [Nat.mul_comm, Nat.mul_add_div hpos, Nat.div_eq_of_lt hc, Nat.add_zero]
  have h2 : (r' * cols + c') / cols = r' := by
    rw [Nat.mul_comm, Nat.mul_add_div hpos, Nat.div_eq_of_lt hc', Nat.add_zero]
  have hr : r = r' := by rw [← h1, ← h2, h]
  subst hr
  exact ⟨rfl, by omega⟩

theorem index_ne (cols r c r' c' : Nat) (hc : c < cols) (hc' : c' < cols) (hne : (r, c) ≠ (r', c')) :
    r * cols + c ≠ r' * cols + c' := by
  intro he
  obtain ⟨h1, h2⟩ := index_inj cols r c r' c' hc hc' he
  exact hne (by rw [h1, h2])

/-- row 0 never consults the header, so a header that yields `cols` for every other row yields it for all -/
theorem cellIndex_of_cols (buf : List Nat) (dim cols : Nat)
    (hcols : ∀ r c, r ≠ 0 → cellIndex buf dim r c = some (r * cols + c)) (r c : Nat) :
    cellIndex buf dim r c = some (r * cols + c) := by
  by_cases hr : r = 0
  · subst hr
    unfold cellIndex
    rw [if_pos rfl, Nat.zero_mul, Nat.zero_add]
  · exact hcols r c hr

end Varint.Dim
