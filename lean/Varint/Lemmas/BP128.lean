import Varint.Model.BP128
import Varint.Lemmas.Bits
import Varint.Lemmas.List
import Varint.Lemmas.Tagged
/- Lemmas about the BP128 model. The four block decoders are instances of one loop (`decLoop`); round trip, capacity and
   fuel adequacy are proved for the loop; the round trips and capacity bounds of each codec are read off here, the fuel
   adequacy of each codec in Lemmas/Fuel. Core Lean only. -/
namespace Varint.BP128
open Varint.Bits

theorem bitLsb_packLsb_getElem (bits : List Bool) (rest : List Nat) (i : Nat) (hi : i < bits.length) :
    bitLsb (packLsb bits ++ rest) i = some bits[i] := by
  rw [bitLsb_packLsb bits rest i hi, List.getElem?_eq_getElem hi]

theorem unpack_of_bits (bytes : List Nat) (bw : Nat) (vs : List Nat) (hv : ∀ v ∈ vs, v < 2 ^ bw)
    (pre post : List Bool)
    (H : ∀ i, i < (pre ++ (vs.flatMap (lsb bw) ++ post)).length →
      bitLsb bytes i = (pre ++ (vs.flatMap (lsb bw) ++ post))[i]?) :
    unpack bytes bw vs.length pre.length = some vs := by
  induction vs generalizing pre with
  | nil => simp [unpack]
  | cons v vs ih =>
    simp only [List.length_cons, unpack]
    have hm : (List.range bw).mapM (fun b => bitLsb bytes (pre.length + b)) = some (lsb bw v) := by
      rw [mapM_some _ (fun b => (lsb bw v).getD b false), range_map_getD (fun x => x) _ false bw (by rw [lsb_length]; omega),
        List.map_id', List.take_of_length_le (by rw [lsb_length]; omega)]
      intro b hb
      have hb : b < bw := by simpa using hb
      rw [H (pre.length + b) (by simp [lsb_length]; omega)]
      rw [List.getElem?_append_right (by omega), List.flatMap_cons, List.append_assoc]
      have : pre.length + b - pre.length = b := by omega
      rw [this, List.getElem?_append_left (by rw [lsb_length]; exact hb)]
      rw [List.getD_eq_getElem?_getD, List.getElem?_eq_getElem (by rw [lsb_length]; exact hb)]
      simp
    rw [hm]
    simp only []
    have := ih (fun x hx => hv x (by simp [hx])) (pre ++ lsb bw v) (by
      intro i hi
      have e : pre ++ lsb bw v ++ (vs.flatMap (lsb bw) ++ post)
          = pre ++ ((v :: vs).flatMap (lsb bw) ++ post) := by
        simp [List.flatMap_cons, List.append_assoc]
      rw [e] at hi ⊢
      exact H i hi)
    rw [List.length_append, lsb_length] at this
    rw [this, ofLsb_lsb_of_lt (hv v (by simp))]
    rfl

theorem unpack_packBlock_take (bw : Nat) (vs : List Nat) (hv : ∀ v ∈ vs, v < 2 ^ bw) (n : Nat)
    (hn : n ≤ vs.length) (rest : List Nat) :
    unpack (packBlock bw vs ++ rest) bw n 0 = some (vs.take n) := by
  have e : vs.flatMap (lsb bw) = [] ++ ((vs.take n).flatMap (lsb bw) ++ (vs.drop n).flatMap (lsb bw)) := by
    rw [List.nil_append, ← List.flatMap_append, List.take_append_drop]
  have := unpack_of_bits (packBlock bw vs ++ rest) bw (vs.take n)
    (fun v hx => hv v (List.mem_of_mem_take hx)) [] ((vs.drop n).flatMap (lsb bw)) (by
      intro i hi
      rw [← e] at hi ⊢
      exact bitLsb_packLsb _ rest i hi)
  rw [List.length_take, Nat.min_eq_left hn] at this
  exact this

theorem unpack_packBlock (bw : Nat) (vs : List Nat) (hv : ∀ v ∈ vs, v < 2 ^ bw) (rest : List Nat) :
    unpack (packBlock bw vs ++ rest) bw vs.length 0 = some vs := by
  have := unpack_packBlock_take bw vs hv vs.length (Nat.le_refl _) rest
  rwa [List.take_length] at this

theorem packBlock_length (bw : Nat) (vs : List Nat) : (packBlock bw vs).length = (vs.length * bw + 7) / 8 := by
  unfold packBlock
  rw [packLsb_length, flatMap_lsb_length]

theorem packBlock_lt (bw : Nat) (vs : List Nat) : ∀ b ∈ packBlock bw vs, b < 256 :=
  packLsb_lt _

theorem unpack_length (bytes : List Nat) (bw n pos : Nat) (vs : List Nat)
    (h : unpack bytes bw n pos = some vs) : vs.length = n := by
  induction n generalizing pos vs with
  | zero =>
    cases h
    rfl
  | succ n ih =>
    simp only [unpack] at h
    split at h
    · cases h
    · obtain ⟨ws, hws, rfl⟩ := Option.map_eq_some_iff.mp h
      rw [List.length_cons, ih _ _ hws]

theorem le_maxL (xs : List Nat) : ∀ x ∈ xs, x ≤ maxL xs := (foldl_max_ge xs 0).2

theorem maxL_lt (xs : List Nat) (b : Nat) (hb : 0 < b) (hx : ∀ x ∈ xs, x < b) : maxL xs < b :=
  foldl_max_lt xs 0 b hb hx

theorem maxL_eq_zero (xs : List Nat) : maxL xs = 0 ↔ ∀ x ∈ xs, x = 0 := by
  constructor
  · intro h x hx
    have := le_maxL xs x hx
    omega
  · intro h
    have := maxL_lt xs 1 (by omega) (fun x hx => by rw [h x hx]; omega)
    omega

theorem bitWidth_eq (xs : List Nat) : bitWidth xs = bitsNeeded (maxL xs) := rfl

theorem lt_pow_bitWidth (xs : List Nat) : ∀ x ∈ xs, x < 2 ^ bitWidth xs := by
  intro x hx
  exact Nat.lt_of_le_of_lt (le_maxL xs x hx) (lt_pow_bitsNeeded _)

theorem bitWidth_le (xs : List Nat) (k : Nat) (h : ∀ x ∈ xs, x < 2 ^ k) : bitWidth xs ≤ k :=
  bitsNeeded_le (maxL_lt xs _ (Nat.pow_pos (by omega)) h)

theorem bitWidth_le_64 (xs : List Nat) (h : ∀ x ∈ xs, x < 2 ^ 64) : bitWidth xs ≤ 64 := bitWidth_le xs 64 h

theorem bitWidth_eq_zero (xs : List Nat) : bitWidth xs = 0 ↔ ∀ x ∈ xs, x = 0 := by
  unfold bitWidth
  rw [bitsNeeded_eq_zero, maxL_eq_zero]

theorem eq_replicate_of_bitWidth_zero (xs : List Nat) (h : bitWidth xs = 0) :
    xs = List.replicate xs.length 0 := by
  rw [bitWidth_eq_zero] at h
  exact List.eq_replicate_iff.mpr ⟨rfl, h⟩

theorem blocks_nil (b : Nat) : blocks b [] = [] := by
  cases b <;> rfl

theorem blocks_full (b : Nat) (xs : List Nat) (h : 128 ≤ xs.length) :
    blocks (b + 1) xs = fullBlock (xs.take 128) ++ blocks b (xs.drop 128) := by
  rw [blocks, if_neg (by omega), if_pos h]

theorem blocks_part (b : Nat) (xs : List Nat) (h0 : xs ≠ []) (h : xs.length < 128) :
    blocks (b + 1) xs = partBlock xs := by
  have := List.length_pos_iff.mpr h0
  rw [blocks, if_neg (by omega), if_neg (by omega)]

def payload (ys : List Nat) : List Nat := if bitWidth ys = 0 then [] else packBlock (bitWidth ys) ys

theorem fullBlock_eq (ys : List Nat) : fullBlock ys = bitWidth ys :: payload ys := rfl
theorem partBlock_eq (ys : List Nat) : partBlock ys = (128 + bitWidth ys) :: ys.length :: payload ys := rfl

theorem payload_length (ys : List Nat) :
    (payload ys).length = if bitWidth ys = 0 then 0 else (ys.length * bitWidth ys + 7) / 8 := by
  unfold payload
  split
  · rfl
  · exact packBlock_length _ _

/-- the expression every decoder evaluates on a payload: zeros without reading when the width is 0 -/
theorem payload_dec (ys : List Nat) (n : Nat) (hn : n ≤ ys.length) (t : List Nat) :
    (if bitWidth ys = 0 then some (List.replicate n 0) else unpack (payload ys ++ t) (bitWidth ys) n 0)
      = some (ys.take n) := by
  unfold payload
  split
  · rename_i hz
    rw [eq_replicate_of_bitWidth_zero ys hz, List.take_replicate, Nat.min_eq_left hn]
  · exact unpack_packBlock_take _ ys (lt_pow_bitWidth ys) n hn t

theorem payload_drop (ys : List Nat) (t : List Nat) :
    (payload ys ++ t).drop (if bitWidth ys = 0 then 0 else (ys.length * bitWidth ys + 7) / 8) = t := by
  rw [← payload_length]
  exact List.drop_left

theorem sumsW_length (w prev : Nat) (ds : List Nat) : (sumsW w prev ds).length = ds.length := by
  induction ds generalizing prev with
  | nil => rfl
  | cons d ds ih => simp [sumsW, ih]

theorem deltasW_length (w prev : Nat) (xs : List Nat) : (deltasW w prev xs).length = xs.length := by
  induction xs generalizing prev with
  | nil => rfl
  | cons x xs ih => simp [deltasW, ih]

theorem sumsW_append (w prev : Nat) (a b : List Nat) :
    sumsW w prev (a ++ b) = sumsW w prev a ++ sumsW w ((sumsW w prev a).getLastD prev) b := by
  induction a generalizing prev with
  | nil => simp [sumsW]
  | cons d a ih =>
    simp only [List.cons_append, sumsW, List.getLastD_cons]
    rw [ih]

theorem deltasW_lt (w prev : Nat) (xs : List Nat) : ∀ d ∈ deltasW w prev xs, d < 2 ^ w := by
  induction xs generalizing prev with
  | nil => simp [deltasW]
  | cons x xs ih =>
    intro d hd
    simp only [deltasW, List.mem_cons] at hd
    rcases hd with rfl | hd
    · exact Nat.mod_lt _ (Nat.pow_pos (by omega))
    · exact ih x d hd

theorem deltasW_lt64 (w : Nat) (hw : w ≤ 64) (prev : Nat) (xs : List Nat) :
    ∀ d ∈ deltasW w prev xs, d < 2 ^ 64 := by
  intro d hd
  exact Nat.lt_of_lt_of_le (deltasW_lt w prev xs d hd) (Nat.pow_le_pow_right (by omega) hw)

theorem sumsW_deltasW (w prev : Nat) (xs : List Nat) (hp : prev < 2 ^ w) (hx : ∀ x ∈ xs, x < 2 ^ w) :
    sumsW w prev (deltasW w prev xs) = xs := by
  induction xs generalizing prev with
  | nil => rfl
  | cons x xs ih =>
    have hxl : x < 2 ^ w := hx x (by simp)
    simp only [deltasW, sumsW]
    have e : (prev + (x + 2 ^ w - prev) % 2 ^ w) % 2 ^ w = x := by
      rw [Nat.add_mod_mod]
      have : prev + (x + 2 ^ w - prev) = x + 2 ^ w := by omega
      rw [this, Nat.add_mod_right, Nat.mod_eq_of_lt hxl]
    rw [e, ih x hxl (fun y hy => hx y (by simp [hy]))]

theorem deltasW_take (w prev : Nat) (xs : List Nat) (n : Nat) :
    (deltasW w prev xs).take n = deltasW w prev (xs.take n) := by
  induction xs generalizing prev n with
  | nil => simp [deltasW]
  | cons x xs ih =>
    cases n with
    | zero => simp [deltasW]
    | succ n => simp [deltasW, ih]

/-- what a decoder delivers for a block with contents `ds`: the contents, or (delta forms) their prefix sums
    modulo 2^w starting from `prev` -/
def sums : Option Nat → Nat → List Nat → List Nat
  | none, _, ds => ds
  | some w, prev, ds => sumsW w prev ds

theorem sums_nil (w : Option Nat) (prev : Nat) : sums w prev [] = [] := by
  cases w <;> rfl

theorem sums_length (w : Option Nat) (prev : Nat) (ds : List Nat) : (sums w prev ds).length = ds.length := by
  cases w
  · rfl
  · exact sumsW_length _ _ _

theorem sums_append (w : Option Nat) (prev : Nat) (a b : List Nat) :
    sums w prev (a ++ b) = sums w prev a ++ sums w ((sums w prev a).getLastD prev) b := by
  cases w
  · rfl
  · exact sumsW_append _ _ _ _

/-- `dec32Aux`, `dec64Aux`, `decD32Aux`, `decD64Aux` differ in three places only.
    `clip`: a block announcing more values than there is room for is cut to the room (the 64-bit forms); the 32-bit
    forms end decoding at a full block that does not fit and cut a partial block to `room % 256` values.
    `stop`: a partial block ends the stream (all forms but `dec64Aux`).
    `w`: the delta forms deliver prefix sums modulo 2^w. -/
def decLoop (clip stop : Bool) (w : Option Nat) : Nat → Nat → Nat → List Nat → Option (List Nat)
  | 0, _, _, _ => some []
  | fuel + 1, room, prev, bs =>
    if room = 0 then some [] else
    match bs with
    | [] => none
    | h :: rest =>
      let bw := if h ≥ 128 then h % 128 else h
      let blk := if h ≥ 128 then rest.headD 0 else 128
      let data := if h ≥ 128 then rest.drop 1 else rest
      if h ≥ 128 ∧ rest = [] then none
      else if clip = false ∧ h < 128 ∧ room < 128 then some []
      else
        let n := if blk > room then (if clip then room else room % 256) else blk
        match (if bw = 0 then some (List.replicate n 0) else unpack data bw n 0) with
        | none => none
        | some ds =>
          let vs := sums w prev ds
          if h ≥ 128 ∧ stop = true then some vs
          else (decLoop clip stop w fuel (room - n) (vs.getLastD prev)
            (data.drop (if bw = 0 then 0 else (n * bw + 7) / 8))).map (vs ++ ·)

/- Once the flags are evaluated and the header byte is classified, the bodies coincide; a closing `rfl` unfolds the
   auxiliary `match` functions, which each definition has of its own. -/

theorem decD64Aux_eq (fuel room prev : Nat) (bs : List Nat) :
    decD64Aux fuel room prev bs = decLoop true true (some 64) fuel room prev bs := by
  induction fuel generalizing room prev bs with
  | zero => rfl
  | succ fuel ih =>
    cases bs with
    | nil => rfl
    | cons h rest =>
      by_cases h1 : h ≥ 128
      · simp [decD64Aux, decLoop, sums, h1]
        rfl
      · simp [decD64Aux, decLoop, ih, sums, h1]
        rfl

theorem dec64Aux_eq (fuel room prev : Nat) (bs : List Nat) :
    dec64Aux fuel room bs = decLoop true false none fuel room prev bs := by
  induction fuel generalizing room prev bs with
  | zero => rfl
  | succ fuel ih =>
    cases bs with
    | nil => rfl
    | cons h rest =>
      by_cases h1 : h ≥ 128
      · by_cases hz : h % 128 = 0
        · simp [dec64Aux, decLoop, ← ih, sums, h1, hz]
        · simp [dec64Aux, decLoop, ← ih, sums, h1, hz]
          rfl
      · by_cases hz : h = 0
        · simp [dec64Aux, decLoop, ← ih, sums, hz]
        · simp [dec64Aux, decLoop, ← ih, sums, h1, hz]
          rfl

theorem decD32Aux_eq (fuel room prev : Nat) (bs : List Nat) :
    decD32Aux fuel room prev bs = decLoop false true (some 32) fuel room prev bs := by
  induction fuel generalizing room prev bs with
  | zero => rfl
  | succ fuel ih =>
    cases bs with
    | nil => rfl
    | cons h rest =>
      by_cases h1 : h ≥ 128
      · have h2 : ¬ h < 128 := by omega
        cases rest with
        | nil => simp [decD32Aux, decLoop, h1]
        | cons cnt data =>
          simp [decD32Aux, decLoop, sums, h1, h2]
          generalize ite (h % 128 = 0) _ _ = o
          cases o <;> simp
      · have h2 : h < 128 := by omega
        by_cases hr : room < 128
        · simp [decD32Aux, decLoop, h1, h2, hr]
        · simp [decD32Aux, decLoop, ih, sums, h1, h2, hr, -List.reduceReplicate]
          rfl

theorem dec32Aux_eq (fuel room prev : Nat) (bs : List Nat) :
    dec32Aux fuel room bs = decLoop false true none fuel room prev bs := by
  induction fuel generalizing room prev bs with
  | zero => rfl
  | succ fuel ih =>
    cases bs with
    | nil => rfl
    | cons h rest =>
      by_cases h1 : h ≥ 128
      · have h2 : ¬ h < 128 := by omega
        cases rest with
        | nil => simp [dec32Aux, decLoop, h1]
        | cons cnt data =>
          simp [dec32Aux, decLoop, sums, h1, h2]
          generalize ite (h % 128 = 0) _ _ = o
          cases o <;> simp
      · have h2 : h < 128 := by omega
        by_cases hr : room < 128
        · simp [dec32Aux, decLoop, h1, h2, hr]
        · by_cases hz : h = 0
          · simp [dec32Aux, decLoop, ← ih, sums, hr, hz, -List.reduceReplicate]
          · simp [dec32Aux, decLoop, ← ih, sums, h1, h2, hr, hz, -List.reduceReplicate]
            rfl

theorem decLoop_room_zero (clip stop : Bool) (w : Option Nat) (fuel prev : Nat) (bs : List Nat) :
    decLoop clip stop w fuel 0 prev bs = some [] := by
  cases fuel <;> simp [decLoop]

theorem decLoop_fullBlock (clip stop : Bool) (w : Option Nat) (fuel room prev : Nat) (ys t : List Nat)
    (hl : ys.length = 128) (hbw : bitWidth ys ≤ 64) (hr0 : room ≠ 0) (hfit : clip = false → 128 ≤ room) :
    decLoop clip stop w (fuel + 1) room prev (fullBlock ys ++ t)
      = (decLoop clip stop w fuel (room - 128) ((sums w prev (ys.take room)).getLastD prev) t).map
          (sums w prev (ys.take room) ++ ·) := by
  have hh : ¬ bitWidth ys ≥ 128 := by omega
  have hn : (if 128 > room then (if clip = true then room else room % 256) else 128) = min 128 room := by
    cases clip
    · have := hfit rfl
      rw [if_neg (by omega)]
      omega
    · rw [if_pos rfl]
      split <;> omega
  rw [fullBlock_eq, List.cons_append]
  simp only [decLoop, if_neg hr0, if_neg hh, hn]
  rw [if_neg (fun h => hh h.1), if_neg (fun h => by have := hfit h.1; omega),
    payload_dec ys (min 128 room) (by omega) t]
  simp only []
  rw [if_neg (fun h => hh h.1)]
  by_cases hr : 128 ≤ room
  · have hd := payload_drop ys t
    rw [hl] at hd
    rw [Nat.min_eq_left hr, hd, List.take_of_length_le (by omega), List.take_of_length_le (by omega)]
  · rw [Nat.min_eq_right (by omega), Nat.sub_self, Nat.sub_eq_zero_of_le (by omega), decLoop_room_zero,
      decLoop_room_zero]

theorem decLoop_partBlock (clip stop : Bool) (w : Option Nat) (fuel room prev : Nat) (ys t : List Nat)
    (hbw : bitWidth ys ≤ 64) (hr0 : room ≠ 0) (hfit : clip = false → ys.length ≤ room) :
    decLoop clip stop w (fuel + 1) room prev (partBlock ys ++ t)
      = if stop = true then some (sums w prev (ys.take room))
        else (decLoop clip stop w fuel (room - ys.length) ((sums w prev (ys.take room)).getLastD prev) t).map
          (sums w prev (ys.take room) ++ ·) := by
  have hh : 128 + bitWidth ys ≥ 128 := by omega
  have hm : (128 + bitWidth ys) % 128 = bitWidth ys := by omega
  have hn : (if ys.length > room then (if clip = true then room else room % 256) else ys.length)
      = min ys.length room := by
    cases clip
    · have := hfit rfl
      rw [if_neg (by omega)]
      omega
    · rw [if_pos rfl]
      split <;> omega
  rw [partBlock_eq, List.cons_append, List.cons_append]
  simp only [decLoop, if_neg hr0, if_pos hh, hm, List.headD_cons, List.drop_succ_cons, List.drop_zero, hn]
  rw [if_neg (fun h => List.cons_ne_nil _ _ h.2), if_neg (fun h => by have := h.2.1; omega),
    payload_dec ys (min ys.length room) (Nat.min_le_left _ _) t]
  simp only []
  by_cases hr : ys.length ≤ room
  · rw [Nat.min_eq_left hr, payload_drop, List.take_length, List.take_of_length_le hr]
    cases stop <;> simp
  · rw [Nat.min_eq_right (by omega), Nat.sub_self, Nat.sub_eq_zero_of_le (by omega), decLoop_room_zero,
      decLoop_room_zero]
    cases stop <;> simp

/-- Round trip of the loop on the encoder's blocks, followed by any bytes: the first `room` values.
    Without clipping everything must fit (`hfit`); room to spare is harmless only after a final partial block
    that ends the stream (`hend`). `128 * fuel` bounds the room because every pass but the last writes 128 values. -/
theorem decLoop_blocks (clip stop : Bool) (w : Option Nat) (fuel : Nat) :
    ∀ (bfuel : Nat) (xs : List Nat) (room prev : Nat) (rest : List Nat),
    (∀ x ∈ xs, x < 2 ^ 64) → xs.length < bfuel → room ≤ 128 * fuel →
    (clip = false → xs.length ≤ room) → (xs.length < room → xs.length % 128 ≠ 0 ∧ stop = true) →
    decLoop clip stop w fuel room prev (blocks bfuel xs ++ rest) = some (sums w prev (xs.take room)) := by
  induction fuel with
  | zero =>
    intro bfuel xs room prev rest _ _ hf _ _
    obtain rfl : room = 0 := by omega
    rw [decLoop_room_zero, List.take_zero, sums_nil]
  | succ fuel ih =>
    intro bfuel xs room prev rest hx hb hf hfit hend
    by_cases hr0 : room = 0
    · subst hr0
      rw [decLoop_room_zero, List.take_zero, sums_nil]
    obtain ⟨b, rfl⟩ : ∃ b, bfuel = b + 1 := ⟨bfuel - 1, by omega⟩
    have h0 : xs ≠ [] := by
      rintro rfl
      have := hend (by simp; omega)
      simp at this
    by_cases h128 : 128 ≤ xs.length
    · rw [blocks_full b xs h128, List.append_assoc, decLoop_fullBlock clip stop w fuel room prev _ _
        (by rw [List.length_take]; omega) (bitWidth_le_64 _ (fun x hm => hx x (List.mem_of_mem_take hm))) hr0
        (fun hc => by have := hfit hc; omega)]
      rw [ih b (xs.drop 128) (room - 128) _ rest (fun x hm => hx x (List.mem_of_mem_drop hm))
        (by rw [List.length_drop]; omega) (by omega)
        (fun hc => by have := hfit hc; rw [List.length_drop]; omega)
        (fun hlt => by
          rw [List.length_drop] at hlt ⊢
          have := hend (by omega)
          exact ⟨by omega, this.2⟩)]
      rw [Option.map_some, ← sums_append, take_take_append_drop]
    · rw [blocks_part b xs h0 (by omega), decLoop_partBlock clip stop w fuel room prev xs rest
        (bitWidth_le_64 _ hx) hr0 hfit]
      cases stop
      · have hle : room ≤ xs.length := by
          apply Nat.le_of_not_lt
          intro hlt
          exact absurd (hend hlt).2 (by simp)
        simp [Nat.sub_eq_zero_of_le hle, decLoop_room_zero]
      · rfl

theorem decLoop_cap (clip stop : Bool) (w : Option Nat) (fuel : Nat) : ∀ (room prev : Nat) (bs vs : List Nat),
    decLoop clip stop w fuel room prev bs = some vs → vs.length ≤ room := by
  induction fuel with
  | zero =>
    intro room prev bs vs h
    cases h
    simp
  | succ fuel ih =>
    intro room prev bs vs h
    simp only [decLoop] at h
    by_cases hr0 : room = 0
    · rw [if_pos hr0] at h
      cases h
      exact Nat.zero_le _
    rw [if_neg hr0] at h
    cases bs with
    | nil => cases h
    | cons hd rest =>
      simp only [] at h
      generalize (if hd ≥ 128 then hd % 128 else hd) = bw at h
      generalize (if hd ≥ 128 then rest.headD 0 else 128) = blk at h
      generalize (if hd ≥ 128 then rest.drop 1 else rest) = data at h
      have hn : (if blk > room then (if clip = true then room else room % 256) else blk) ≤ room := by
        split
        · split
          · omega
          · exact Nat.mod_le _ _
        · omega
      generalize (if blk > room then _ else blk) = n at h hn
      by_cases c1 : hd ≥ 128 ∧ rest = []
      · rw [if_pos c1] at h
        cases h
      rw [if_neg c1] at h
      by_cases c2 : clip = false ∧ hd < 128 ∧ room < 128
      · rw [if_pos c2] at h
        cases h
        exact Nat.zero_le _
      rw [if_neg c2] at h
      cases hds : (if bw = 0 then some (List.replicate n 0) else unpack data bw n 0) with
      | none =>
        rw [hds] at h
        cases h
      | some ds =>
        rw [hds] at h
        simp only [] at h
        have hdl : ds.length = n := by
          split at hds
          · cases hds
            exact List.length_replicate ..
          · exact unpack_length _ _ _ _ _ hds
        by_cases c3 : hd ≥ 128 ∧ stop = true
        · rw [if_pos c3] at h
          cases h
          rw [sums_length]
          omega
        · rw [if_neg c3] at h
          obtain ⟨ws, hws, rfl⟩ := Option.map_eq_some_iff.mp h
          have := ih _ _ _ _ hws
          rw [List.length_append, sums_length]
          omega

/-- Where a partial block ends the stream, a pass recurses only after a full block, and that takes `min 128 room`
    of the room: fuel `⌈room / 128⌉` is never exhausted. -/
theorem decLoop_fuel (clip : Bool) (w : Option Nat) (f g room prev : Nat) (bs : List Nat)
    (hf : (room + 127) / 128 ≤ f) (hg : (room + 127) / 128 ≤ g) :
    decLoop clip true w f room prev bs = decLoop clip true w g room prev bs := by
  induction f generalizing g room prev bs with
  | zero =>
    obtain rfl : room = 0 := by omega
    rw [decLoop_room_zero, decLoop_room_zero]
  | succ f ih =>
    by_cases h0 : room = 0
    · subst h0
      rw [decLoop_room_zero, decLoop_room_zero]
    obtain ⟨g, rfl⟩ : ∃ g', g = g' + 1 := ⟨g - 1, by omega⟩
    cases bs with
    | nil => rfl
    | cons h rest =>
      by_cases h1 : h ≥ 128
      · simp [decLoop, h1]
      · simp only [decLoop, if_neg h1]
        have hn : min 128 room ≤ (if 128 > room then (if clip = true then room else room % 256) else 128) := by
          split
          · split
            · omega
            · rw [Nat.mod_eq_of_lt (by omega)]
              omega
          · omega
        generalize (if 128 > room then _ else 128) = n at hn
        have key : ∀ p b, decLoop clip true w f (room - n) p b = decLoop clip true w g (room - n) p b :=
          fun p b => ih g _ p b (by omega) (by omega)
        simp only [key]

theorem lt64_of_lt32 {xs : List Nat} (h : ∀ x ∈ xs, x < 2 ^ 32) : ∀ x ∈ xs, x < 2 ^ 64 := by
  intro x hx
  have := h x hx
  omega

/-- `varintBP128Decode32` on the output of `varintBP128Encode32`: the capacity may exceed the count only when the stream
    ends with a short (count-prefixed) block -/
theorem dec32_enc32_gen (xs : List Nat) (h : ∀ x ∈ xs, x < 2 ^ 64) (cap : Nat) (hcap : xs.length ≤ cap)
    (hp : xs.length < cap → xs.length % 128 ≠ 0) (rest : List Nat) :
    dec32 (enc32 xs ++ rest) cap = some xs := by
  unfold dec32 enc32
  rw [dec32Aux_eq _ _ 0, decLoop_blocks false true none _ _ xs cap 0 rest h (by omega) (by omega)
    (fun _ => hcap) (fun hlt => ⟨hp hlt, rfl⟩), List.take_of_length_le hcap]
  rfl

/-- the model's 32-bit form also takes values up to 64 bits -/
theorem dec32_enc32_64 (xs : List Nat) (h : ∀ x ∈ xs, x < 2 ^ 64) (rest : List Nat) :
    dec32 (enc32 xs ++ rest) xs.length = some xs :=
  dec32_enc32_gen xs h _ (Nat.le_refl _) (fun hlt => absurd hlt (Nat.lt_irrefl _)) rest

theorem dec32_enc32 (xs : List Nat) (h : ∀ x ∈ xs, x < 2 ^ 32) (rest : List Nat) :
    dec32 (enc32 xs ++ rest) xs.length = some xs :=
  dec32_enc32_64 xs (lt64_of_lt32 h) rest

theorem dec32_enc32_cap (xs : List Nat) (h : ∀ x ∈ xs, x < 2 ^ 32) (cap : Nat) (hcap : xs.length ≤ cap)
    (hp : xs.length % 128 ≠ 0) (rest : List Nat) :
    dec32 (enc32 xs ++ rest) cap = some xs :=
  dec32_enc32_gen xs (lt64_of_lt32 h) cap hcap (fun _ => hp) rest

/-- `varintBP128Decode64` on the output of `varintBP128Encode64` clips to the capacity -/
theorem dec64_enc64_take (xs : List Nat) (hne : xs ≠ []) (h : ∀ x ∈ xs, x < 2 ^ 64)
    (hn : xs.length < 2 ^ 64) (cap : Nat) (rest : List Nat) :
    dec64 (enc64 xs ++ rest) cap = some (xs.take cap) := by
  have h0 : ¬ xs.length = 0 := fun h => hne (List.length_eq_zero_iff.mp h)
  unfold dec64 enc64
  rw [if_neg h0, List.append_assoc, Tagged.get_enc _ hn]
  simp only [List.drop_left]
  rw [dec64Aux_eq _ _ 0, decLoop_blocks true false none _ _ xs _ 0 rest h (by omega) (by omega)
    (fun hc => by cases hc) (fun hlt => by have := Nat.min_le_left xs.length cap; omega)]
  by_cases hc : xs.length ≤ cap
  · rw [Nat.min_eq_left hc, List.take_length, List.take_of_length_le hc]
    rfl
  · rw [Nat.min_eq_right (by omega)]
    rfl

theorem dec64_enc64 (xs : List Nat) (hne : xs ≠ []) (h : ∀ x ∈ xs, x < 2 ^ 64) (hn : xs.length < 2 ^ 64)
    (cap : Nat) (hcap : xs.length ≤ cap) (rest : List Nat) :
    dec64 (enc64 xs ++ rest) cap = some xs := by
  rw [dec64_enc64_take xs hne h hn cap rest, List.take_of_length_le hcap]

/-- `varintBP128DeltaDecode32` on the output of `varintBP128DeltaEncode32`: the capacity may exceed the count only when
    the delta stream ends with a short (count-prefixed) block -/
theorem decD32_encD_gen (xs : List Nat) (hne : xs ≠ []) (h : ∀ x ∈ xs, x < 2 ^ 32) (cap : Nat)
    (hcap : xs.length ≤ cap) (hp : xs.length < cap → (xs.length - 1) % 128 ≠ 0) (rest : List Nat) :
    decD32 (encD 32 xs ++ rest) cap = some xs := by
  cases xs with
  | nil => exact absurd rfl hne
  | cons x xs =>
    have hx : x < 2 ^ 32 := h x (by simp)
    simp only [List.length_cons, Nat.add_sub_cancel] at hcap hp
    unfold decD32 encD
    rw [if_neg (by omega), List.append_assoc, Tagged.get_enc x (by omega)]
    simp only [List.drop_left]
    rw [Nat.mod_eq_of_lt hx, decD32Aux_eq, decLoop_blocks false true (some 32) _ _ (deltasW 32 x xs) (cap - 1) x
      rest (deltasW_lt64 32 (by omega) x xs) (by rw [deltasW_length]; omega) (by omega)
      (fun _ => by rw [deltasW_length]; omega)
      (fun hlt => by rw [deltasW_length] at hlt ⊢; exact ⟨hp (by omega), rfl⟩)]
    rw [List.take_of_length_le (by rw [deltasW_length]; omega)]
    exact congrArg (fun l => some (x :: l)) (sumsW_deltasW 32 x xs hx (fun y hy => h y (by simp [hy])))

theorem decD32_encD (xs : List Nat) (hne : xs ≠ []) (h : ∀ x ∈ xs, x < 2 ^ 32) (rest : List Nat) :
    decD32 (encD 32 xs ++ rest) xs.length = some xs :=
  decD32_encD_gen xs hne h _ (Nat.le_refl _) (fun hlt => absurd hlt (Nat.lt_irrefl _)) rest

theorem decD32_encD_cap (xs : List Nat) (hne : xs ≠ []) (h : ∀ x ∈ xs, x < 2 ^ 32) (cap : Nat)
    (hcap : xs.length ≤ cap) (hp : (xs.length - 1) % 128 ≠ 0) (rest : List Nat) :
    decD32 (encD 32 xs ++ rest) cap = some xs :=
  decD32_encD_gen xs hne h cap hcap (fun _ => hp) rest

/-- `varintBP128DeltaDecode64` on the output of `varintBP128DeltaEncode64` clips to the capacity; the capacity may
    exceed the count only when the delta stream ends with a short (count-prefixed) block -/
theorem decD64_encD_take (xs : List Nat) (hne : xs ≠ []) (h : ∀ x ∈ xs, x < 2 ^ 64) (cap : Nat)
    (hp : xs.length < cap → (xs.length - 1) % 128 ≠ 0) (rest : List Nat) :
    decD64 (encD 64 xs ++ rest) cap = some (xs.take cap) := by
  cases xs with
  | nil => exact absurd rfl hne
  | cons x xs =>
    have hx : x < 2 ^ 64 := h x (by simp)
    simp only [List.length_cons, Nat.add_sub_cancel] at hp
    unfold decD64
    by_cases hc0 : cap = 0
    · subst hc0
      rfl
    obtain ⟨c, rfl⟩ : ∃ c, cap = c + 1 := ⟨cap - 1, by omega⟩
    unfold encD
    rw [if_neg hc0, List.append_assoc, Tagged.get_enc x hx]
    simp only [List.drop_left, Nat.add_sub_cancel]
    rw [decD64Aux_eq, decLoop_blocks true true (some 64) _ _ (deltasW 64 x xs) c x
      rest (deltasW_lt64 64 (by omega) x xs) (by rw [deltasW_length]; omega) (by omega)
      (fun hc => by cases hc)
      (fun hlt => by rw [deltasW_length] at hlt ⊢; exact ⟨hp (by omega), rfl⟩)]
    rw [deltasW_take]
    exact congrArg (fun l => some (x :: l))
      (sumsW_deltasW 64 x _ hx (fun y hy => h y (List.mem_cons_of_mem _ (List.mem_of_mem_take hy))))

theorem decD64_encD (xs : List Nat) (hne : xs ≠ []) (h : ∀ x ∈ xs, x < 2 ^ 64) (rest : List Nat) :
    decD64 (encD 64 xs ++ rest) xs.length = some xs := by
  rw [decD64_encD_take xs hne h _ (fun hlt => absurd hlt (Nat.lt_irrefl _)) rest, List.take_length]

theorem decD64_encD_cap (xs : List Nat) (hne : xs ≠ []) (h : ∀ x ∈ xs, x < 2 ^ 64) (cap : Nat)
    (hcap : xs.length ≤ cap) (hp : (xs.length - 1) % 128 ≠ 0) (rest : List Nat) :
    decD64 (encD 64 xs ++ rest) cap = some xs := by
  rw [decD64_encD_take xs hne h cap (fun _ => hp) rest, List.take_of_length_le hcap]

theorem decD64_encD_prefix (xs : List Nat) (hne : xs ≠ []) (h : ∀ x ∈ xs, x < 2 ^ 64) (cap : Nat)
    (hcap : cap ≤ xs.length) (rest : List Nat) :
    decD64 (encD 64 xs ++ rest) cap = some (xs.take cap) :=
  decD64_encD_take xs hne h cap (fun hlt => by omega) rest

/-- bytes of the blocks of `n` values (`maxBytes` without the + 9) -/
def blkBound (n : Nat) : Nat := (n / 128) * (1 + 128 * 8) + (if n % 128 > 0 then 2 + (n % 128) * 8 else 0)

theorem maxBytes_eq (n : Nat) : maxBytes n = blkBound n + 9 := rfl

theorem blkBound_mono_succ (n : Nat) : blkBound n ≤ blkBound (n + 1) := by
  unfold blkBound
  split <;> split <;> omega

theorem payload_length_le (ys : List Nat) (hbw : bitWidth ys ≤ 64) : (payload ys).length ≤ ys.length * 8 := by
  rw [payload_length]
  split
  · omega
  · have : ys.length * bitWidth ys ≤ ys.length * 64 := Nat.mul_le_mul_left _ hbw
    omega

theorem blocks_length_le (bfuel : Nat) : ∀ (xs : List Nat), (∀ x ∈ xs, x < 2 ^ 64) → xs.length < bfuel →
    (blocks bfuel xs).length ≤ blkBound xs.length := by
  induction bfuel with
  | zero => intro xs _ h; omega
  | succ b ih =>
    intro xs hx hb
    by_cases h0 : xs = []
    · subst h0
      rw [blocks_nil]
      exact Nat.zero_le _
    · have hpos : 0 < xs.length := List.length_pos_iff.mpr h0
      by_cases h128 : 128 ≤ xs.length
      · rw [blocks_full b xs h128, List.length_append, fullBlock_eq, List.length_cons]
        have h1 := payload_length_le (xs.take 128) (bitWidth_le_64 _ (fun x hm => hx x (List.mem_of_mem_take hm)))
        have h2 := ih (xs.drop 128) (fun x hm => hx x (List.mem_of_mem_drop hm))
          (by rw [List.length_drop]; omega)
        rw [List.length_take, Nat.min_eq_left h128] at h1
        rw [List.length_drop] at h2
        have h3 : blkBound (xs.length - 128) + 1025 ≤ blkBound xs.length := by
          unfold blkBound
          split <;> split <;> omega
        omega
      · rw [blocks_part b xs h0 (by omega), partBlock_eq, List.length_cons, List.length_cons]
        have h1 := payload_length_le xs (bitWidth_le_64 _ hx)
        unfold blkBound
        rw [if_pos (by omega)]
        omega

theorem enc64_length_le (xs : List Nat) (h : ∀ x ∈ xs, x < 2 ^ 64) : (enc64 xs).length ≤ maxBytes xs.length := by
  rw [maxBytes_eq]
  unfold enc64
  split
  · exact Nat.zero_le _
  · rw [List.length_append, Tagged.enc_length]
    have := (Tagged.len_bounds xs.length).2
    have := blocks_length_le (xs.length + 1) xs h (by omega)
    omega

theorem enc32_length_le64 (xs : List Nat) (h : ∀ x ∈ xs, x < 2 ^ 64) : (enc32 xs).length ≤ maxBytes xs.length := by
  rw [maxBytes_eq]
  unfold enc32
  have := blocks_length_le (xs.length + 1) xs h (by omega)
  omega

theorem enc32_length_le (xs : List Nat) (h : ∀ x ∈ xs, x < 2 ^ 32) : (enc32 xs).length ≤ maxBytes xs.length :=
  enc32_length_le64 xs (lt64_of_lt32 h)

/-- no bound on the values: the deltas are reduced modulo 2^w -/
theorem encD_length_le (w : Nat) (hw : w ≤ 64) (xs : List Nat) : (encD w xs).length ≤ maxBytes xs.length := by
  rw [maxBytes_eq]
  cases xs with
  | nil => exact Nat.zero_le _
  | cons x xs =>
    unfold encD
    rw [List.length_append, Tagged.enc_length, List.length_cons]
    have := (Tagged.len_bounds x).2
    have := blocks_length_le (xs.length + 1) (deltasW w x xs) (deltasW_lt64 w hw x xs)
      (by rw [deltasW_length]; omega)
    rw [deltasW_length] at this
    have := blkBound_mono_succ xs.length
    omega

theorem encD32_length_le (xs : List Nat) : (encD 32 xs).length ≤ maxBytes xs.length :=
  encD_length_le 32 (by omega) xs

theorem encD64_length_le (xs : List Nat) : (encD 64 xs).length ≤ maxBytes xs.length :=
  encD_length_le 64 (by omega) xs

theorem dec32_cap (bs : List Nat) (cap : Nat) (vs : List Nat) (h : dec32 bs cap = some vs) : vs.length ≤ cap := by
  unfold dec32 at h
  rw [dec32Aux_eq _ _ 0] at h
  exact decLoop_cap _ _ _ _ _ _ _ _ h

theorem dec64_cap (bs : List Nat) (cap : Nat) (vs : List Nat) (h : dec64 bs cap = some vs) : vs.length ≤ cap := by
  unfold dec64 at h
  split at h
  · rw [dec64Aux_eq _ _ 0] at h
    exact Nat.le_trans (decLoop_cap _ _ _ _ _ _ _ _ h) (Nat.min_le_right _ _)
  · cases h

theorem decD32_cap (bs : List Nat) (cap : Nat) (vs : List Nat) (h : decD32 bs cap = some vs) :
    vs.length ≤ cap := by
  unfold decD32 at h
  split at h
  · cases h
    exact Nat.zero_le _
  · split at h
    · obtain ⟨ws, hws, rfl⟩ := Option.map_eq_some_iff.mp h
      rw [decD32Aux_eq] at hws
      have := decLoop_cap _ _ _ _ _ _ _ _ hws
      rw [List.length_cons]
      omega
    · cases h

theorem decD64_cap (bs : List Nat) (cap : Nat) (vs : List Nat) (h : decD64 bs cap = some vs) :
    vs.length ≤ cap := by
  unfold decD64 at h
  split at h
  · cases h
    exact Nat.zero_le _
  · split at h
    · obtain ⟨ws, hws, rfl⟩ := Option.map_eq_some_iff.mp h
      rw [decD64Aux_eq] at hws
      have := decLoop_cap _ _ _ _ _ _ _ _ hws
      rw [List.length_cons]
      omega
    · cases h

end Varint.BP128
