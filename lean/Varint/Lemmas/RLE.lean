import Varint.Model.RLE
import Varint.Lemmas.Tagged
/- Lemmas for the run-length codec of Model/RLE.lean: `runs` expands back to the list, the decoder
   returns the (capacity-cut) prefix of an encoding, `(enc xs).length = size xs ≤ 10 * xs.length`,
   and `runs` rewritten front-to-back for the bridge. -/
namespace Varint.RLE

def expand (rs : List (Nat × Nat)) : List Nat := rs.flatMap fun (l, v) => List.replicate l v
def total (rs : List (Nat × Nat)) : Nat := (rs.map (·.1)).sum

theorem expand_cons (l v : Nat) (rs : List (Nat × Nat)) : expand ((l, v) :: rs) = List.replicate l v ++ expand rs := by
  simp [expand]

theorem total_cons (l v : Nat) (rs : List (Nat × Nat)) : total ((l, v) :: rs) = l + total rs := by
  simp [total]

theorem expand_runs (xs : List Nat) : expand (runs xs) = xs := by
  induction xs with
  | nil => rfl
  | cons x xs ih =>
    simp only [runs]
    cases h : runs xs with
    | nil =>
      rw [h] at ih
      simp only [expand, List.flatMap_nil] at ih
      simp [expand, ← ih]
    | cons r rest =>
      obtain ⟨l, v⟩ := r
      rw [h] at ih
      simp only []
      split
      · rename_i hv
        subst hv
        rw [expand_cons] at ih ⊢
        rw [List.replicate_succ, List.cons_append, ih]
      · rw [expand_cons, ih]; rfl

theorem length_expand (rs : List (Nat × Nat)) : (expand rs).length = total rs := by
  induction rs with
  | nil => rfl
  | cons r rs ih =>
    obtain ⟨l, v⟩ := r
    rw [expand_cons, total_cons, List.length_append, List.length_replicate, ih]

theorem total_runs (xs : List Nat) : total (runs xs) = xs.length := by
  rw [← length_expand, expand_runs]

theorem runs_pos (xs : List Nat) : ∀ r ∈ runs xs, 1 ≤ r.1 := by
  induction xs with
  | nil => simp [runs]
  | cons x xs ih =>
    simp only [runs]
    cases h : runs xs with
    | nil => simp
    | cons r rest =>
      obtain ⟨l, v⟩ := r
      rw [h] at ih
      simp only []
      split
      · intro r hr
        simp only [List.mem_cons] at hr
        rcases hr with rfl | hr
        · simp
        · exact ih r (by simp [hr])
      · intro r hr
        simp only [List.mem_cons] at hr
        rcases hr with rfl | hr
        · simp
        · exact ih r (by simpa using hr)

theorem runs_vals (xs : List Nat) : ∀ r ∈ runs xs, r.2 ∈ xs := by
  intro r hr
  have : r.2 ∈ expand (runs xs) := by
    have hp := runs_pos xs r hr
    simp only [expand, List.mem_flatMap]
    exact ⟨r, hr, by obtain ⟨l, v⟩ := r; simp at hp ⊢; omega⟩
  rwa [expand_runs] at this

theorem le_total_of_mem (rs : List (Nat × Nat)) : ∀ r ∈ rs, r.1 ≤ total rs := by
  induction rs with
  | nil => simp
  | cons a rs ih =>
    obtain ⟨l, v⟩ := a
    intro r hr
    rw [total_cons]
    simp only [List.mem_cons] at hr
    rcases hr with rfl | hr
    · simp
    · have := ih r hr; omega

theorem getRun_enc (l v : Nat) (hl : l < 2 ^ 64) (hv : v < 2 ^ 64) (rest : List Nat) :
    getRun (Tagged.enc l ++ Tagged.enc v ++ rest) = some (l, v, rest) := by
  unfold getRun
  rw [List.append_assoc, Tagged.get_enc l hl]
  simp only []
  rw [List.drop_left, Tagged.get_enc v hv]
  simp only []
  rw [← List.append_assoc, List.drop_left' (by simp)]

theorem length_le_total (rs : List (Nat × Nat)) (hpos : ∀ r ∈ rs, 1 ≤ r.1) : rs.length ≤ total rs := by
  induction rs with
  | nil => simp [total]
  | cons a rs ih =>
    obtain ⟨l, v⟩ := a
    rw [total_cons, List.length_cons]
    have h1 : 1 ≤ l := hpos (l, v) (by simp)
    have h2 := ih (fun r hr => hpos r (by simp [hr]))
    omega

theorem runs_length_le (xs : List Nat) : (runs xs).length ≤ xs.length := by
  have := length_le_total (runs xs) (runs_pos xs)
  rw [total_runs] at this
  exact this

theorem runs_lt (xs : List Nat) (hx : ∀ x ∈ xs, x < 2 ^ 64) (hn : xs.length < 2 ^ 64) :
    ∀ r ∈ runs xs, r.1 < 2 ^ 64 ∧ r.2 < 2 ^ 64 := by
  intro r hr
  have h1 := le_total_of_mem _ r hr
  rw [total_runs] at h1
  exact ⟨by omega, hx _ (runs_vals xs r hr)⟩

theorem getRun_encRuns (l v : Nat) (rs : List (Nat × Nat)) (rest : List Nat) (hl : l < 2 ^ 64) (hv : v < 2 ^ 64) :
    getRun (encRuns ((l, v) :: rs) ++ rest) = some (l, v, encRuns rs ++ rest) := by
  rw [show encRuns ((l, v) :: rs) ++ rest = Tagged.enc l ++ Tagged.enc v ++ (encRuns rs ++ rest) by simp [encRuns]]
  exact getRun_enc l v hl hv _

/-- decoding with room for at most `room` values yields exactly that prefix: a run that does not fit is clipped -/
theorem decAux_enc_prefix (rs : List (Nat × Nat)) (fuel room : Nat) (hf : room < fuel)
    (hroom : room ≤ total rs)
    (hpos : ∀ r ∈ rs, 1 ≤ r.1) (hlt : ∀ r ∈ rs, r.1 < 2 ^ 64 ∧ r.2 < 2 ^ 64) (rest : List Nat) :
    decAux fuel room (encRuns rs ++ rest) = some ((expand rs).take room) := by
  induction rs generalizing fuel room with
  | nil =>
    obtain ⟨f, rfl⟩ : ∃ f, fuel = f + 1 := ⟨fuel - 1, by omega⟩
    have h0 : room = 0 := by simpa [total] using hroom
    subst h0
    simp [decAux]
  | cons r rs ih =>
    obtain ⟨l, v⟩ := r
    obtain ⟨f, rfl⟩ : ∃ f, fuel = f + 1 := ⟨fuel - 1, by omega⟩
    have hl1 : 1 ≤ l := hpos (l, v) (by simp)
    have hb := hlt (l, v) (by simp)
    rw [total_cons] at hroom
    rw [decAux]
    by_cases h0 : room = 0
    · rw [if_pos h0, h0]; simp
    · rw [if_neg h0, getRun_encRuns l v rs rest hb.1 hb.2]
      simp only []
      rw [if_neg (by omega), expand_cons, List.take_append, List.take_replicate, List.length_replicate]
      by_cases hge : l ≥ room
      · rw [if_pos hge]
        have e1 : min room l = room := by omega
        have e2 : room - l = 0 := by omega
        rw [e1, e2]; simp
      · rw [if_neg hge]
        have e1 : min room l = l := by omega
        rw [e1, ih f (room - l) (by omega) (by omega)
          (fun r hr => hpos r (by simp [hr])) (fun r hr => hlt r (by simp [hr]))]
        rfl

theorem dec_enc_prefix (xs : List Nat) (hx : ∀ x ∈ xs, x < 2 ^ 64) (hn : xs.length < 2 ^ 64) (cap : Nat)
    (hcap : cap ≤ xs.length) (rest : List Nat) :
    dec (enc xs ++ rest) cap = some (xs.take cap) := by
  unfold dec enc
  have h := decAux_enc_prefix (runs xs) (cap + 1) cap (by omega) (by rw [total_runs]; exact hcap)
    (runs_pos xs) (runs_lt xs hx hn) rest
  rw [expand_runs] at h
  exact h

theorem dec_enc (xs : List Nat) (hx : ∀ x ∈ xs, x < 2 ^ 64) (hn : xs.length < 2 ^ 64) (rest : List Nat) :
    dec (enc xs ++ rest) xs.length = some xs := by
  have h := dec_enc_prefix xs hx hn xs.length (Nat.le_refl _) rest
  rwa [List.take_length] at h

/-- exactness of the size predictor -/
theorem enc_length (xs : List Nat) : (enc xs).length = size xs := by
  unfold enc size encRuns
  generalize runs xs = rs
  induction rs with
  | nil => rfl
  | cons a rs ih =>
    obtain ⟨l, v⟩ := a
    simp only [List.flatMap_cons, List.length_append, List.map_cons, List.sum_cons, Tagged.enc_length, ih]

theorem encRuns_le (rs : List (Nat × Nat)) (hpos : ∀ r ∈ rs, 1 ≤ r.1) : (encRuns rs).length ≤ 10 * total rs := by
  induction rs with
  | nil => simp [encRuns]
  | cons a rs ih =>
    obtain ⟨l, v⟩ := a
    have h1 := hpos (l, v) (by simp)
    have := ih (fun r hr => hpos r (by simp [hr]))
    have hl := Tagged.len_bounds l
    have hv := Tagged.len_bounds v
    have hlone : l = 1 → Tagged.len l = 1 := by intro h; subst h; decide
    simp only [encRuns, List.flatMap_cons, List.length_append, Tagged.enc_length, total_cons] at *
    by_cases h : l = 1
    · have := hlone h; omega
    · omega

theorem enc_le (xs : List Nat) : (enc xs).length ≤ 10 * xs.length := by
  have := encRuns_le (runs xs) (runs_pos xs)
  rw [total_runs] at this
  exact this

/-! The model's `runs` recurses from the back of the list; the C reads from the front, with a run under way. -/

theorem runs_replicate (L cur : Nat) (hL : 1 ≤ L) : runs (List.replicate L cur) = [(L, cur)] := by
  induction L with
  | zero => omega
  | succ L ih =>
    cases L with
    | zero => rfl
    | succ L =>
      rw [List.replicate_succ, runs, ih (by omega)]
      simp

theorem runs_head (x : Nat) (t : List Nat) : ∃ k rest, runs (x :: t) = (k, x) :: rest := by
  induction t generalizing x with
  | nil => exact ⟨1, [], rfl⟩
  | cons y t ih =>
    obtain ⟨k, rest, h⟩ := ih y
    rw [runs, h]
    by_cases c : y = x
    · subst c; exact ⟨k + 1, rest, by simp⟩
    · exact ⟨1, (k, y) :: rest, by simp [c]⟩

theorem runs_replicate_append_ne (L cur x : Nat) (t : List Nat) (hL : 1 ≤ L) (hx : x ≠ cur) :
    runs (List.replicate L cur ++ x :: t) = (L, cur) :: runs (List.replicate 1 x ++ t) := by
  induction L with
  | zero => omega
  | succ L ih =>
    obtain ⟨k, rest, h⟩ := runs_head x t
    cases L with
    | zero =>
      simp only [List.replicate_succ, List.replicate_zero, List.nil_append, List.cons_append]
      rw [runs, h]
      simp [hx]
    | succ L =>
      rw [List.replicate_succ, List.cons_append, runs, ih (by omega)]
      simp

theorem replicate_snoc_cons (L cur : Nat) (t : List Nat) :
    List.replicate L cur ++ cur :: t = List.replicate (L + 1) cur ++ t := by
  rw [List.replicate_succ']
  simp

theorem encRuns_cons (l v : Nat) (rs : List (Nat × Nat)) :
    encRuns ((l, v) :: rs) = Tagged.enc l ++ Tagged.enc v ++ encRuns rs := by
  simp [encRuns]

theorem encRuns_single (l v : Nat) : encRuns [(l, v)] = Tagged.enc l ++ Tagged.enc v := by
  simp [encRuns]

end Varint.RLE
