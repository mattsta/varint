import Varint.Model.Dict
import Varint.Lemmas.Bytes
import Varint.Lemmas.Tagged
import Varint.Lemmas.List
/- Lemmas about the dictionary codec model (Model/Dict.lean). Core Lean only. -/
namespace Varint.Dict
open Varint.Tagged (getN)

def U64s (xs : List Nat) : Prop := ∀ x ∈ xs, x < 2 ^ 64

theorem mem_dedupAdj (x : Nat) : ∀ l : List Nat, x ∈ dedupAdj l ↔ x ∈ l
  | [] => by simp [dedupAdj]
  | [a] => by simp [dedupAdj]
  | a :: b :: rest => by
    have ih := mem_dedupAdj x (b :: rest)
    unfold dedupAdj
    by_cases h : a = b
    · rw [if_pos h, ih]
      subst h
      simp
    · rw [if_neg h, List.mem_cons, ih, List.mem_cons (a := x) (b := a)]

theorem dedupAdj_length_le : ∀ l : List Nat, (dedupAdj l).length ≤ l.length
  | [] => by simp [dedupAdj]
  | [a] => by simp [dedupAdj]
  | a :: b :: rest => by
    have ih := dedupAdj_length_le (b :: rest)
    unfold dedupAdj
    split
    · simp only [List.length_cons] at ih ⊢; omega
    · simp only [List.length_cons] at ih ⊢; omega

theorem dedupAdj_pairwise : ∀ l : List Nat, List.Pairwise (· ≤ ·) l → List.Pairwise (· < ·) (dedupAdj l)
  | [], _ => by simp [dedupAdj]
  | [a], _ => by simp [dedupAdj]
  | a :: b :: rest, h => by
    have h' := List.pairwise_cons.1 h
    have ih := dedupAdj_pairwise (b :: rest) h'.2
    unfold dedupAdj
    by_cases hab : a = b
    · rw [if_pos hab]; exact ih
    · rw [if_neg hab]
      apply List.pairwise_cons.2
      refine ⟨?_, ih⟩
      intro y hy
      have hy' := (mem_dedupAdj y (b :: rest)).1 hy
      have hb : a ≤ b := h'.1 b (by simp)
      have hbl : a < b := by omega
      rcases List.mem_cons.1 hy' with e | e
      · omega
      · have := (List.pairwise_cons.1 h'.2).1 y e
        omega

theorem build_pairwise (xs : List Nat) : List.Pairwise (· < ·) (build xs) :=
  dedupAdj_pairwise _ (sort_pairwise xs)

theorem mem_build (xs : List Nat) (x : Nat) : x ∈ build xs ↔ x ∈ xs := by
  unfold build
  rw [mem_dedupAdj, List.mem_mergeSort]

theorem build_length_le (xs : List Nat) : (build xs).length ≤ xs.length := by
  unfold build
  have := dedupAdj_length_le (xs.mergeSort (· ≤ ·))
  rwa [List.length_mergeSort] at this

theorem build_ne_nil (xs : List Nat) (h : xs ≠ []) : build xs ≠ [] := by
  cases xs with
  | nil => contradiction
  | cons a t =>
    intro e
    have := (mem_build (a :: t) a).2 (by simp)
    rw [e] at this
    simp at this

theorem bsearch_mem (d : List Nat) (hd : List.Pairwise (· < ·) d) (x i : Nat) (hi : i < d.length)
    (hx : d[i]? = some x) :
    ∀ fuel lo hi', lo ≤ i → i < hi' → hi' ≤ d.length → hi' - lo ≤ fuel →
      bsearch d.toArray x fuel lo hi' = some i := by
  have hxi : d[i] = x := by
    rw [List.getElem?_eq_getElem hi] at hx
    exact Option.some.inj hx
  -- the entries are strictly increasing, so comparing two of them compares their positions
  have pos : ∀ a b (ha : a < d.length) (hb : b < d.length), d[a] ≤ d[b] → a ≤ b := by
    intro a b ha hb h
    apply Classical.byContradiction
    intro hn
    have := List.pairwise_iff_getElem.1 hd b a hb ha (by omega)
    omega
  intro fuel
  induction fuel with
  | zero => intro lo hi' h1 h2 h3 h4; omega
  | succ fuel ih =>
    intro lo hi' h1 h2 h3 h4
    unfold bsearch
    rw [if_neg (by omega)]
    simp only []
    have hm : lo + (hi' - 1 - lo) / 2 < d.length := by omega
    have hv : d.toArray.getD (lo + (hi' - 1 - lo) / 2) 0 = d[lo + (hi' - 1 - lo) / 2] := by
      simp [Array.getD, hm]
    rw [hv]
    generalize hmid : lo + (hi' - 1 - lo) / 2 = mid at hm ⊢
    have hne : d[mid] ≠ x → mid ≠ i := fun c e => c (by subst e; exact hxi)
    by_cases c1 : d[mid] = x
    · have := pos mid i hm hi (by omega)
      have := pos i mid hi hm (by omega)
      rw [if_pos c1, show mid = i by omega]
    · rw [if_neg c1]
      have := hne c1
      by_cases c2 : d[mid] < x
      · have := pos mid i hm hi (by omega)
        rw [if_pos c2]
        exact ih _ _ (by omega) h2 h3 (by omega)
      · have := pos i mid hi hm (by omega)
        rw [if_neg c2]
        exact ih _ _ h1 (by omega) (by omega) (by omega)

/-- the binary search returns THE position of a present key -/
theorem find_getElem (d : List Nat) (hd : List.Pairwise (· < ·) d) (x i : Nat) (hx : d[i]? = some x) :
    find d x = some i := by
  have hi : i < d.length := by
    apply Classical.byContradiction
    intro hn
    rw [List.getElem?_eq_none (by omega)] at hx
    simp at hx
  unfold find findA
  exact bsearch_mem d hd x i hi hx _ _ _ (by omega) hi (Nat.le_refl _) (by omega)

theorem find_mem (d : List Nat) (hd : List.Pairwise (· < ·) d) (x : Nat) (hx : x ∈ d) :
    ∃ i, find d x = some i ∧ i < d.length ∧ d[i]? = some x := by
  obtain ⟨i, hi, e⟩ := List.getElem_of_mem hx
  have hx' : d[i]? = some x := by rw [List.getElem?_eq_getElem hi, e]
  exact ⟨i, find_getElem d hd x i hx', hi, hx'⟩

/-- a read that succeeds under one declared size succeeds identically under any declared size ≥ its length -/
theorem getN_resize {bs : List Nat} {n m : Int} {v l : Nat} (h : getN bs n = .ok v l) (hm : (l : Int) ≤ m) :
    getN bs m = .ok v l :=
  Tagged.getN_of_accepts (Tagged.getN_ok h).2 hm

theorem getB_enc (v : Nat) (hv : v < 2 ^ 64) (rest : List Nat) :
    getB (Tagged.enc v ++ rest) = some (v, Tagged.len v) := by
  unfold getB
  have h := Tagged.get_enc v hv rest
  rw [Tagged.enc_length] at h
  have hb := Tagged.len_bounds v
  have hl : (Tagged.enc v ++ rest).length = Tagged.len v + rest.length := by
    rw [List.length_append, Tagged.enc_length]
  rw [getN_resize h (by rw [hl]; omega)]

/-- position of `x` in the dictionary of `xs` (0 when absent) -/
def idxOf (d : List Nat) (x : Nat) : Nat := (find d x).getD 0

/-- the index stream the encoder writes -/
def indices (xs : List Nat) : List Nat := xs.map (idxOf (build xs))

theorem idxOf_spec (xs : List Nat) (x : Nat) (hx : x ∈ xs) :
    find (build xs) x = some (idxOf (build xs) x) ∧ idxOf (build xs) x < (build xs).length ∧
      (build xs)[idxOf (build xs) x]? = some x := by
  obtain ⟨i, h1, h2, h3⟩ := find_mem (build xs) (build_pairwise xs) x ((mem_build xs x).2 hx)
  have : idxOf (build xs) x = i := by unfold idxOf; rw [h1]; rfl
  rw [this]
  exact ⟨h1, h2, h3⟩

theorem mapM_find (xs : List Nat) : xs.mapM (find (build xs)) = some (indices xs) :=
  mapM_some _ _ _ (fun x hx => (idxOf_spec xs x hx).1)

theorem enc_eq (xs : List Nat) (hne : xs ≠ []) (hd : (build xs).length ≤ maxDict) :
    enc xs = Tagged.enc (build xs).length ++ (build xs).flatMap Tagged.enc ++ Tagged.enc xs.length ++
      (indices xs).flatMap (leBytes (indexWidth (build xs).length)) := by
  unfold enc
  rw [if_neg hne]
  simp only []
  have hm : xs.mapM (findA (build xs).toArray (build xs).length) = some (indices xs) := mapM_find xs
  rw [if_neg (by omega), hm]

theorem enc_accepts (xs : List Nat) (hne : xs ≠ []) (hd : (build xs).length ≤ maxDict) : enc xs ≠ [] := by
  rw [enc_eq xs hne hd]
  intro h
  have := congrArg List.length h
  simp only [List.length_append, Tagged.enc_length, List.length_nil] at this
  have := (Tagged.len_bounds (build xs).length).1
  omega

theorem enc_ne_nil_iff (xs : List Nat) : enc xs ≠ [] ↔ xs ≠ [] ∧ (build xs).length ≤ maxDict := by
  constructor
  · intro h
    constructor
    · intro e; apply h; unfold enc; rw [if_pos e]
    · apply Classical.byContradiction
      intro hn
      apply h
      unfold enc
      by_cases e : xs = []
      · rw [if_pos e]
      · rw [if_neg e]; simp only []; rw [if_pos (by omega)]
  · intro ⟨h1, h2⟩
    exact enc_accepts xs h1 h2

theorem enc_ne_nil_of_length_le (xs : List Nat) (hne : xs ≠ []) (hn : xs.length ≤ maxDict) : enc xs ≠ [] :=
  enc_accepts xs hne (Nat.le_trans (build_length_le xs) hn)

theorem length_flatMap_enc (d : List Nat) : (d.flatMap Tagged.enc).length = (d.map Tagged.len).sum := by
  induction d with
  | nil => rfl
  | cons a t ih => simp [List.flatMap_cons, Tagged.enc_length, ih]

theorem indices_length (xs : List Nat) : (indices xs).length = xs.length := by
  unfold indices; simp

theorem enc_length (xs : List Nat) (h : enc xs ≠ []) : (enc xs).length = size xs := by
  obtain ⟨hne, hd⟩ := (enc_ne_nil_iff xs).1 h
  rw [enc_eq xs hne hd]
  unfold size
  rw [if_neg hne]
  simp only []
  rw [if_neg (by omega)]
  simp only [List.length_append, Tagged.enc_length, length_flatMap_enc, length_flatMap_leBytes, indices_length]

theorem size_eq_zero_iff (xs : List Nat) : size xs = 0 ↔ enc xs = [] := by
  constructor
  · intro h
    apply Classical.byContradiction
    intro hn
    have := enc_length xs hn
    have h2 : (enc xs).length ≠ 0 := by
      intro e; exact hn (List.eq_nil_of_length_eq_zero e)
    omega
  · intro h
    apply Classical.byContradiction
    intro hn
    unfold size at hn
    by_cases e : xs = []
    · rw [if_pos e] at hn; exact hn rfl
    · rw [if_neg e] at hn
      simp only [] at hn
      by_cases e2 : (build xs).length > maxDict
      · rw [if_pos e2] at hn; exact hn rfl
      · exact enc_accepts xs e (by omega) h

theorem readEntries_enc (d : List Nat) (hd : U64s d) (rest : List Nat) :
    readEntries d.length (d.flatMap Tagged.enc ++ rest) = some (d, rest) := by
  induction d with
  | nil => simp [readEntries]
  | cons a t ih =>
    have ha : a < 2 ^ 64 := hd a (by simp)
    have ht : U64s t := fun x hx => hd x (by simp [hx])
    simp only [List.length_cons, List.flatMap_cons, List.append_assoc]
    unfold readEntries
    rw [getB_enc a ha]
    simp only []
    rw [List.drop_left' (Tagged.enc_length a), ih ht]
    rfl

theorem readIdx_enc (w : Nat) (idx : List Nat) (h : ∀ i ∈ idx, i < 256 ^ w) (rest : List Nat) :
    readIdx idx.length w (idx.flatMap (leBytes w) ++ rest) = some idx := by
  induction idx with
  | nil => simp [readIdx]
  | cons a t ih =>
    have ha := h a (by simp)
    have ht := ih (fun x hx => h x (by simp [hx]))
    simp only [List.length_cons, List.flatMap_cons, List.append_assoc]
    unfold readIdx
    rw [takeExact_append _ _ (leBytes_length w a)]
    simp only []
    rw [List.drop_left' (leBytes_length w a), ht, ofLe_leBytes_of_lt ha]
    rfl

theorem lt_pow_indexWidth (n i : Nat) (h : i < n) : i < 256 ^ indexWidth n := by
  unfold indexWidth
  rw [if_neg (by omega)]
  exact lt_pow_of_extLen_le (extLen_mono (by omega))

theorem indexWidth_pos (n : Nat) : 1 ≤ indexWidth n := by
  unfold indexWidth
  split
  · omega
  · exact extLen_pos _

theorem build_U64s (xs : List Nat) (hx : U64s xs) : U64s (build xs) :=
  fun x h => hx x ((mem_build xs x).1 h)

theorem lookup_indices (xs : List Nat) :
    (indices xs).mapM (fun i => if i < (build xs).length then (build xs)[i]? else none) = some xs := by
  have : ∀ l : List Nat, (∀ x ∈ l, x ∈ xs) →
      (l.map (idxOf (build xs))).mapM (fun i => if i < (build xs).length then (build xs)[i]? else none) = some l := by
    intro l
    induction l with
    | nil => intro _; rfl
    | cons a t ih =>
      intro hl
      obtain ⟨_, h2, h3⟩ := idxOf_spec xs a (hl a (by simp))
      rw [List.map_cons, List.mapM_cons, if_pos h2, h3, ih (fun x hx => hl x (by simp [hx]))]
      rfl
  exact this xs (fun x hx => hx)

/-- common part: the decoder reaches the capacity test with the right count, and passes everything else -/
theorem dec_enc_aux (xs : List Nat) (hx : U64s xs) (hn : xs.length < 2 ^ 64) (h : enc xs ≠ []) (rest : List Nat)
    (capOpt : Option Nat) (h0 : capOpt ≠ some 0) :
    dec (enc xs ++ rest) capOpt =
      if (match capOpt with | some c => decide (xs.length > c) | none => false) then none else some xs := by
  obtain ⟨hne, hd⟩ := (enc_ne_nil_iff xs).1 h
  have hnil : enc xs ++ rest ≠ [] := by
    intro e; exact h (List.append_eq_nil_iff.1 e).1
  unfold dec
  rw [if_neg (by intro hc; rcases hc with hc | hc; exact hnil hc; exact h0 hc)]
  rw [enc_eq xs hne hd]
  have hdl : (build xs).length < 2 ^ 64 := by unfold maxDict at hd; omega
  simp only [List.append_assoc]
  rw [getB_enc _ hdl]
  simp only []
  rw [if_neg (by omega), List.drop_left' (Tagged.enc_length _), readEntries_enc _ (build_U64s xs hx)]
  simp only []
  rw [getB_enc _ hn]
  simp only []
  rw [List.drop_left' (Tagged.enc_length _)]
  have hw := indexWidth_pos (build xs).length
  have hlen : xs.length ≤ ((indices xs).flatMap (leBytes (indexWidth (build xs).length)) ++ rest).length
      / indexWidth (build xs).length := by
    rw [Nat.le_div_iff_mul_le (by omega), List.length_append, length_flatMap_leBytes, indices_length]
    omega
  have hr := readIdx_enc (indexWidth (build xs).length) (indices xs) (by
    intro i hi
    unfold indices at hi
    obtain ⟨x, hx', e⟩ := List.mem_map.1 hi
    subst e
    exact lt_pow_indexWidth _ _ (idxOf_spec xs x hx').2.1) rest
  rw [indices_length] at hr
  have hgt : ¬ xs.length > ((indices xs).flatMap (leBytes (indexWidth (build xs).length)) ++ rest).length
      / indexWidth (build xs).length := by omega
  cases capOpt with
  | none =>
    simp only [Bool.false_eq_true, ↓reduceIte]
    rw [if_neg hgt, hr]
    exact lookup_indices xs
  | some c =>
    simp only []
    by_cases hc : xs.length > c
    · have hdc : decide (xs.length > c) = true := by simpa using hc
      rw [if_pos hdc, if_pos hdc]
    · have hdc : ¬ (decide (xs.length > c) = true) := by simpa using hc
      rw [if_neg hdc, if_neg hgt, hr, if_neg hdc]
      exact lookup_indices xs

theorem dec_enc (xs : List Nat) (hx : U64s xs) (hn : xs.length < 2 ^ 64) (h : enc xs ≠ []) (rest : List Nat) :
    dec (enc xs ++ rest) none = some xs := by
  rw [dec_enc_aux xs hx hn h rest none (by simp)]
  simp

theorem dec_enc_cap (xs : List Nat) (hx : U64s xs) (hn : xs.length < 2 ^ 64) (h : enc xs ≠ []) (rest : List Nat)
    (cap : Nat) (hc : xs.length ≤ cap) : dec (enc xs ++ rest) (some cap) = some xs := by
  obtain ⟨hne, _⟩ := (enc_ne_nil_iff xs).1 h
  have hpos : 0 < xs.length := List.length_pos_iff.2 hne
  rw [dec_enc_aux xs hx hn h rest (some cap) (by simp; omega)]
  simp only []
  rw [if_neg (by simp; omega)]

theorem dec_enc_small_cap (xs : List Nat) (hx : U64s xs) (hn : xs.length < 2 ^ 64) (h : enc xs ≠ [])
    (rest : List Nat) (cap : Nat) (hc : cap < xs.length) : dec (enc xs ++ rest) (some cap) = none := by
  by_cases h0 : cap = 0
  · subst h0
    unfold dec
    rw [if_pos (Or.inr rfl)]
  · rw [dec_enc_aux xs hx hn h rest (some cap) (by simp; omega)]
    simp only []
    rw [if_pos (by simp; omega)]

theorem readIdx_length (n w : Nat) (bs idx : List Nat) (h : readIdx n w bs = some idx) : idx.length = n := by
  induction n generalizing bs idx with
  | zero => cases h; rfl
  | succ n ih =>
    unfold readIdx at h
    split at h
    · cases h
    · cases hr : readIdx n w (bs.drop w) with
      | none => rw [hr] at h; cases h
      | some r =>
        rw [hr] at h
        cases h
        rw [List.length_cons, ih _ _ hr]

/-- whatever the bytes, a successful decode yields exactly the announced count, which passed the capacity test -/
theorem dec_length_le_cap (bs : List Nat) (c : Nat) (vs : List Nat) (h : dec bs (some c) = some vs) :
    vs.length ≤ c := by
  unfold dec at h
  -- every guard of the decoder that fails returns `none`
  split at h
  · cases h
  split at h
  · cases h
  split at h
  · cases h
  split at h
  · cases h
  split at h
  · cases h
  rename_i cnt l2 _
  simp only [] at h
  split at h
  · cases h
  rename_i hcap
  split at h
  · cases h
  split at h
  · cases h
  rename_i idx hidx
  have h1 := mapM_length _ _ _ h
  have h2 := readIdx_length _ _ _ _ hidx
  simp at hcap
  omega

theorem enc_lt (xs : List Nat) : ∀ b ∈ enc xs, b < 256 := by
  intro b hb
  by_cases h : enc xs = []
  · rw [h] at hb; simp at hb
  · obtain ⟨hne, hd⟩ := (enc_ne_nil_iff xs).1 h
    rw [enc_eq xs hne hd] at hb
    simp only [List.mem_append, List.mem_flatMap] at hb
    rcases hb with ((hb | ⟨a, _, hb⟩) | hb) | ⟨a, _, hb⟩
    · exact Tagged.enc_lt _ b hb
    · exact Tagged.enc_lt _ b hb
    · exact Tagged.enc_lt _ b hb
    · exact leBytes_lt _ _ b hb

end Varint.Dict
