import Varint.Gen.CGroup
import Varint.Model.Group
import Varint.Lemmas.Group
import Varint.Bridge.Loop
import Varint.Bridge.Tagged
import Varint.Bridge.External
import Varint.Bridge.Sizes
/-
  Bridge: the readers of src/varintGroup.c — varintGroupGetFieldWidth, varintGroupGetSize (loop over the 2-bit width
  codes), varintGroupGetField and varintGroupDecode (a loop that fills the local array `widths[]`, then a loop that reads it back while
  walking the value bytes) — as translated by tools/c2lean2.py from the CURRENT source, equal the hand-written model
  Varint.Group.* on every byte buffer the model reads inside of; and the size predictor varintGroupSize
  (`groupSize_eq`, fewer than 256 fields).
-/
namespace Varint.Bridge.Group
open Varint Varint.Gen.C Varint.Bridge Varint.Group
open Varint.Bridge.Tagged (bufOf bufOf_lt)

/-- the 2-bit width code of field `i` as the C extracts it from bitmap byte `b` -/
theorem code_read (b i : Nat) :
    (((((b : Nat) : Int) / 2 ^ ((((((i : Nat) : Int) * (2 : Int))) % (2 ^ 64 : Int)).toNat % 8)) % (4 : Int)) % (2 ^ 8 : Int)).toNat =
      b / 4 ^ (i % 4) % 4 := by
  have e : (((((i : Nat) : Int) * (2 : Int))) % (2 ^ 64 : Int)).toNat % 8 = 2 * (i % 4) := by omega
  have c : ((b : Int) / 2 ^ (2 * (i % 4))) = ((b / 4 ^ (i % 4) : Nat) : Int) := by
    rw [Int.pow_mul]
    simp
  rw [e, c]
  omega

theorem byte_pos (i : Nat) (hi : i < 256) :
    (1 + (((((i : Nat) : Int) * (2 : Int))) % (2 ^ 64 : Int)).toNat / 8) % 2 ^ 64 = 1 + i / 4 := by omega

/-- the C's bitmap lookup for field `i` (byte `1 + 2i/8`, two bits from bit `2i mod 8`) decodes to the width of the
    code the model finds there -/
theorem codeAt_read (bs : List Nat) (i cd : Nat) (hi : i < 256) (h : codeAt bs i = some cd) :
    groupWidthDecode
      ((((((bufOf bs ((1 + (((((i : Nat) : Int) * (2 : Int))) % (2 ^ 64 : Int)).toNat / 8) % 2 ^ 64) : Nat) : Int) /
        2 ^ ((((((i : Nat) : Int) * (2 : Int))) % (2 ^ 64 : Int)).toNat % 8)) % (4 : Int)) % (2 ^ 8 : Int)).toNat) =
      Group.width cd := by
  unfold codeAt at h
  cases hb : bs[1 + i / 4]? with
  | none => rw [hb] at h; cases h
  | some b =>
    rw [hb] at h
    have hbuf : bufOf bs (1 + i / 4) = b := by
      unfold bufOf; rw [List.getD_eq_getElem?_getD, hb]; rfl
    rw [byte_pos i hi, hbuf, code_read b i, Sizes.groupWidthDecode_eq, ← Option.some.inj h]

/-- one width read: from `widths bs n = some ws` the C's read of field `i < n` gives `ws[i]` -/
theorem width_read (bs ws : List Nat) (n : Nat) (hw : widths bs n = some ws) (i : Nat) (hi : i < n) (h256 : i < 256) :
    ws[i]? = some (groupWidthDecode
      ((((((bufOf bs ((1 + (((((i : Nat) : Int) * (2 : Int))) % (2 ^ 64 : Int)).toNat / 8) % 2 ^ 64) : Nat) : Int) /
        2 ^ ((((((i : Nat) : Int) * (2 : Int))) % (2 ^ 64 : Int)).toNat % 8)) % (4 : Int)) % (2 ^ 8 : Int)).toNat)) := by
  obtain ⟨cd, hc, h⟩ := widths_getElem? bs ws n hw i hi
  rw [codeAt_read bs i cd h256 hc, h]

/-- **`varintGroupGetFieldWidth(src, i)`** = the model's accessor (0 = VARINT_WIDTH_INVALID) -/
theorem groupGetFieldWidth_eq (bs : List Nat) (i w : Nat) (hi : i < 256)
    (h : getFieldWidth bs i = some w) : groupGetFieldWidth (bufOf bs) i = w := by
  cases bs with
  | nil => simp [getFieldWidth] at h
  | cons c t =>
    have hc : bufOf (c :: t) 0 = c := rfl
    unfold groupGetFieldWidth
    unfold getFieldWidth at h
    simp only [hc] at h ⊢
    by_cases c0 : c = 0 ∨ i ≥ c
    · rw [if_pos c0] at h
      rw [if_pos (by omega), Option.some.inj h]
    · rw [if_neg c0] at h
      rw [if_neg (by omega)]
      cases hcd : codeAt (c :: t) i with
      | none => rw [hcd] at h; cases h
      | some cd =>
        rw [hcd] at h
        rw [codeAt_read _ i cd hi hcd, ← Option.some.inj h]

/-- one step of the running offset: adding the width of field `i` does not wrap -/
theorem offset_step (ws : List Nat) (h8 : ∀ w ∈ ws, w ≤ 8) (base i w : Nat) (hw : ws[i]? = some w)
    (hb : base + 8 * (i + 1) < 2 ^ 64) :
    (base + (ws.take i).sum + w) % 2 ^ 64 = base + (ws.take (i + 1)).sum := by
  have hs := sum_le_mul (ws.take (i + 1)) 8 (fun x hx => h8 x (List.mem_of_mem_take hx))
  rw [List.length_take] at hs
  rw [List.take_add_one, hw, List.sum_append, Option.toList_some, List.sum_singleton] at hs ⊢
  rw [Nat.mod_eq_of_lt (by omega), Nat.add_assoc]

/-- the width-summing loop of `varintGroupGetSize` -/
theorem getSize_loop (bs ws : List Nat) (c : Nat) (hc : c ≤ 64) (hw : widths bs c = some ws) (base : Nat)
    (hbase : base + 8 * 64 < 2 ^ 64) :
    ∀ (fuel i : Nat), i ≤ c → c - i < fuel →
      groupGetSize_loop1 (bufOf bs) c fuel (i, base + (ws.take i).sum) = .done (c, base + ws.sum) := by
  have hl := widths_length bs c ws hw
  intro fuel
  induction fuel with
  | zero => intro i _ hf; omega
  | succ f ih =>
    intro i hic hf
    by_cases c1 : i < c
    · have c1' : (((i : Nat) : Int) < ((c : Nat) : Int)) := by omega
      have hr := width_read bs ws c hw i c1 (by omega)
      simp only [groupGetSize_loop1, if_pos c1']
      generalize groupWidthDecode _ = w at hr ⊢
      rw [offset_step ws (fun w h => (widths_bounds bs ws c hw w h).2) base i w hr (by omega),
        Nat.mod_eq_of_lt (show i + 1 < 2 ^ 8 by omega)]
      exact ih (i + 1) (by omega) (by omega)
    · have : i = c := by omega
      subst this
      simp only [groupGetSize_loop1, Int.lt_irrefl, if_false]
      rw [List.take_of_length_le (by omega)]

/-- **`varintGroupGetSize(src)`** = the model's self-measured size, every fuel above 64 (the largest field count) -/
theorem groupGetSize_eq (bs : List Nat) (hb : ∀ b ∈ bs, b < 256) (sz : Nat) (h : getSize bs = some sz) (fuel : Nat)
    (hf : 64 < fuel) : groupGetSize fuel (bufOf bs) = some sz := by
  cases bs with
  | nil => simp [getSize] at h
  | cons c t =>
    have hc : bufOf (c :: t) 0 = c := rfl
    have hc256 : c < 256 := hb c (by simp)
    unfold groupGetSize
    unfold getSize at h
    simp only [hc] at h ⊢
    by_cases c0 : c = 0 ∨ c > 64
    · rw [if_pos c0] at h
      rw [if_pos (by omega)]
      exact h
    · rw [if_neg c0] at h
      rw [if_neg (by omega)]
      cases hw : widths (c :: t) c with
      | none => rw [hw] at h; cases h
      | some ws =>
        rw [hw] at h
        have hbm : bitmapSize c ≤ 17 := by unfold bitmapSize; omega
        have := getSize_loop (c :: t) ws c (by omega) hw (1 + bitmapSize c) (by omega) fuel 0 (by omega) (by omega)
        rw [List.take_zero, List.sum_nil, Nat.add_zero] at this
        rw [Sizes.groupBitmapSize_eq c hc256, Nat.mod_eq_of_lt (by omega), this]
        exact h

/-- the loop of `varintGroupDecode` that fills `widths[]` -/
theorem widths_loop (bs ws : List Nat) (c : Nat) (hc : c ≤ 64) (hw : widths bs c = some ws) (fc : Option Nat) :
    ∀ (fuel i : Nat), i ≤ c → c - i < fuel →
      groupDecode_loop1 (bufOf bs) c 1 fuel (i, [], storesFrom 0 (ws.take i), fc) = .done (c, [], storesFrom 0 ws, fc) := by
  have hl := widths_length bs c ws hw
  intro fuel
  induction fuel with
  | zero => intro i _ hf; omega
  | succ f ih =>
    intro i hic hf
    by_cases c1 : i < c
    · have c1' : (((i : Nat) : Int) < ((c : Nat) : Int)) := by omega
      have hr := width_read bs ws c hw i c1 (by omega)
      simp only [groupDecode_loop1, if_pos c1']
      generalize groupWidthDecode _ = w at hr ⊢
      have e : storesFrom 0 (ws.take i) ++ [(i, w)] = storesFrom 0 (ws.take (i + 1)) := by
        rw [List.take_add_one, hr, storesFrom_append, List.length_take, Nat.min_eq_left (by omega), Nat.zero_add]
        rfl
      rw [e, Nat.mod_eq_of_lt (show i + 1 < 2 ^ 8 by omega)]
      exact ih (i + 1) (by omega) (by omega)
    · have : i = c := by omega
      subst this
      simp only [groupDecode_loop1, Int.lt_irrefl, if_false]
      rw [List.take_of_length_le (by omega)]

/-- the loop of `varintGroupDecode` that reads the values, their widths taken from the local array `W` -/
theorem values_loop (bs ws : List Nat) (hb : ∀ b ∈ bs, b < 256) (h64 : bs.length < 2 ^ 64) (c : Nat) (hc : c ≤ 64)
    (hlen : ws.length = c) (hws : ∀ w ∈ ws, 1 ≤ w ∧ w ≤ 8) (W : List (Nat × Nat))
    (hW : ∀ i (h : i < ws.length), rdw (fun _ => 0) W i = ws[i]) (fc : Option Nat) :
    ∀ (fuel i off : Nat) (st : List (Nat × Nat)) (vs : List Nat), i ≤ c → c - i < fuel →
      readFields bs (ws.drop i) off = some vs →
      groupDecode_loop2 (bufOf bs) c fuel (i, off, st, W, fc) =
        .done (c, off + (ws.drop i).sum, st ++ storesFrom i vs, W, fc) := by
  intro fuel
  induction fuel with
  | zero => intro i _ _ _ _ hf; omega
  | succ f ih =>
    intro i off st vs hic hf hr
    by_cases c1 : i < c
    · have c1' : (((i : Nat) : Int) < ((c : Nat) : Int)) := by omega
      rw [List.drop_eq_getElem_cons (by omega)] at hr ⊢
      unfold readFields at hr
      split at hr
      · cases hr
      · rename_i p hp
        split at hr
        · cases hr
        · rename_i vs' hr'
          cases hr
          obtain ⟨hw1, hw8⟩ := hws ws[i] (List.getElem_mem _)
          have hin : off + ws[i] ≤ bs.length := by
            have := (takeExact_some hp).2.1
            rw [List.length_drop] at this
            omega
          simp only [groupDecode_loop2, if_pos c1', hW i (by omega)]
          rw [External.extGet_take bs hb off _ p hw1 hw8 hp, Nat.mod_eq_of_lt (show i + 1 < 2 ^ 8 by omega),
            Nat.mod_eq_of_lt (show off + ws[i] < 2 ^ 64 by omega), ih (i + 1) _ _ vs' (by omega) (by omega) hr']
          simp only [storesFrom_cons, List.append_assoc, List.singleton_append, List.sum_cons, Nat.add_assoc]
    · have : i = c := by omega
      subst this
      rw [List.drop_of_length_le (by omega)] at hr ⊢
      cases hr
      simp [groupDecode_loop2]

/-- **`varintGroupDecode(src, values, &fieldCount, maxFields)`** on every byte buffer the model reads inside of: a field
    count of 0, above 64 or above the capacity returns 0 with no store at all (not even `*fieldCount`); otherwise the C
    stores the count, exactly the model's values at values[0 … count-1] in order and nowhere else, and returns the bytes
    consumed. Every fuel above 64. -/
theorem groupDecode_eq (bs : List Nat) (hb : ∀ b ∈ bs, b < 256) (h64 : bs.length < 2 ^ 64) (cap fuel : Nat)
    (hf : 64 < fuel) :
    (dec bs cap = some none → groupDecode fuel (bufOf bs) cap = some (0, none, [])) ∧
    (∀ vs consumed, dec bs cap = some (some (vs, consumed)) →
      groupDecode fuel (bufOf bs) cap = some (consumed, some vs.length, storesFrom 0 vs) ∧ vs.length ≤ cap) := by
  cases bs with
  | nil => simp [dec]
  | cons c t =>
    have hc : bufOf (c :: t) 0 = c := rfl
    have hc256 : c < 256 := hb c (by simp)
    unfold groupDecode
    simp only [hc]
    constructor
    · intro hd
      have := dec_none_inv hd
      rw [if_pos (by omega)]
    · intro vs consumed hd
      obtain ⟨c0, ws, hw, hr, rfl⟩ := dec_some_inv hd
      have hl := widths_length _ c ws hw
      have hvl := readFields_length (c :: t) ws _ _ hr
      have hbm : bitmapSize c ≤ 17 := by unfold bitmapSize; omega
      have hwl := widths_loop (c :: t) ws c (by omega) hw (some c) fuel 0 (by omega) (by omega)
      rw [List.take_zero, storesFrom_nil] at hwl
      rw [if_neg (by omega), hwl, Sizes.groupBitmapSize_eq c hc256, Nat.mod_eq_of_lt (by omega)]
      simp only []
      rw [values_loop (c :: t) ws hb h64 c (by omega) hl (widths_bounds _ _ _ hw) _
        (fun i h => by
          rw [rdw_storesFrom, if_pos (by omega), Nat.sub_zero, List.getD_eq_getElem?_getD,
            List.getElem?_eq_getElem h]
          rfl)
        (some c) fuel 0 (1 + bitmapSize c) [] vs (by omega) (by omega) hr]
      simp only [List.drop_zero, List.nil_append]
      exact ⟨by rw [hvl, hl], by omega⟩

/-! ### varintGroupSize (the size predictor) and varintGroupGetField (random access) -/

theorem size_loop (xs : List Nat) (hx : ∀ x ∈ xs, x < 2 ^ 64) (hc : xs.length ≤ 64) :
    ∀ (n i tot : Nat), i + n = xs.length → tot + 8 * n < 2 ^ 64 → ∀ fuel, n + 9 ≤ fuel →
      groupSize_loop1 (bufOf xs) xs.length fuel (i, tot) = .done (xs.length, tot + ((xs.drop i).map normW).sum) := by
  intro n
  induction n with
  | zero =>
    intro i tot hi _ fuel hf
    obtain ⟨f, rfl⟩ : ∃ f', fuel = f' + 1 := ⟨fuel - 1, by omega⟩
    have : i = xs.length := by omega
    subst this
    simp [groupSize_loop1]
  | succ n ih =>
    intro i tot hi htot fuel hf
    obtain ⟨f, rfl⟩ : ∃ f', fuel = f' + 1 := ⟨fuel - 1, by omega⟩
    have c1 : (((i : Nat) : Int) < ((xs.length : Nat) : Int)) := by omega
    have hv : bufOf xs i = xs[i]'(by omega) := Tagged.bufOf_getElem xs i (by omega)
    have h8 := extLen_le_8 (hx _ (List.getElem_mem (show i < xs.length by omega)))
    have h1 := extLen_pos (xs[i]'(by omega))
    simp only [groupSize_loop1, if_pos c1, hv]
    simp only [width_loop_one groupSize_loop2 (fun _ _ _ => rfl) f (xs[i]'(by omega)) (by omega) (by omega)]
    have hn : (if extLen (xs[i]'(by omega)) ≤ 1 then (tot + 1) % 2 ^ 64
        else if extLen (xs[i]'(by omega)) ≤ 2 then (tot + 2) % 2 ^ 64
        else if extLen (xs[i]'(by omega)) ≤ 4 then (tot + 4) % 2 ^ 64 else (tot + 8) % 2 ^ 64) =
        tot + normW (xs[i]'(by omega)) := by
      unfold normW
      simp only []
      repeat' split
      all_goals exact Nat.mod_eq_of_lt (by omega)
    have hnw := normW_le_8 (xs[i]'(by omega))
    rw [hn, Nat.mod_eq_of_lt (show i + 1 < 2 ^ 8 by omega), List.drop_eq_getElem_cons (by omega),
      ih (i + 1) _ (by omega) (by omega) f (by omega), List.map_cons, List.sum_cons, Nat.add_assoc]

/-- **`varintGroupSize(values, n)`** = the model's size predictor, for every list of fewer than 256 fields of 64-bit values (n = 0 or
    n > 64 gives 0), every fuel ≥ n + 9 -/
theorem groupSize_eq (xs : List Nat) (hx : ∀ x ∈ xs, x < 2 ^ 64) (h256 : xs.length < 256) (fuel : Nat)
    (hf : xs.length + 9 ≤ fuel) : groupSize fuel (bufOf xs) xs.length = some (Group.size xs) := by
  unfold groupSize Group.size
  by_cases c0 : xs.length = 0 ∨ xs.length > 64
  · rw [if_pos c0, if_pos (by omega)]
  · rw [if_neg c0, if_neg (by omega), Sizes.groupBitmapSize_eq _ h256]
    have hbm : bitmapSize xs.length ≤ 17 := by unfold bitmapSize; omega
    simp only []
    rw [Nat.mod_eq_of_lt (show 1 + bitmapSize xs.length < 2 ^ 64 by omega)]
    rw [size_loop xs hx (by omega) xs.length 0 _ (by omega) (by omega) fuel hf]
    simp

/-- the skipping loop of `varintGroupGetField`: the loop of `varintGroupGetSize` stopped at the wanted field; the four
    scratch variables it drags along end up with values nothing reads -/
theorem getField_loop (bs ws : List Nat) (idx : Nat) (hidx : idx < 64) (hw : widths bs (idx + 1) = some ws) (base : Nat)
    (hbase : base + 8 * 64 < 2 ^ 64) :
    ∀ (fuel j : Nat), j ≤ idx → idx - j < fuel → ∀ (a b c d : Nat),
      ∃ a' b' c' d', groupGetField_loop1 (bufOf bs) idx fuel (j, a, b, c, d, base + (ws.take j).sum) =
        .done (idx, a', b', c', d', base + (ws.take idx).sum) := by
  intro fuel
  induction fuel with
  | zero => intro j _ hf; omega
  | succ f ih =>
    intro j hj hf a b c d
    by_cases c1 : j < idx
    · have c1' : (((j : Nat) : Int) < ((idx : Nat) : Int)) := by omega
      have hr := width_read bs ws _ hw j (by omega) (by omega)
      simp only [groupGetField_loop1, if_pos c1']
      generalize groupWidthDecode _ = w at hr ⊢
      rw [offset_step ws (fun w h => (widths_bounds bs ws _ hw w h).2) base j w hr (by omega),
        Nat.mod_eq_of_lt (show j + 1 < 2 ^ 8 by omega)]
      exact ih (j + 1) (by omega) (by omega) _ _ _ _
    · have : j = idx := by omega
      subst this
      simp only [groupGetField_loop1, Int.lt_irrefl, if_false]
      exact ⟨_, _, _, _, rfl⟩

/-- **`varintGroupGetField(src, i, &value)`** = the model's random access on every buffer the model reads inside of:
    index out of range (or count 0) returns 0 and stores nothing; otherwise the field's value and the bytes from the start
    through the field. Field index below 64, every fuel above 64. -/
theorem groupGetField_eq (bs : List Nat) (hb : ∀ b ∈ bs, b < 256) (h64 : bs.length < 2 ^ 64) (i : Nat) (hi : i < 64)
    (fuel : Nat) (hf : 64 < fuel) :
    (getField bs i = some none → groupGetField fuel (bufOf bs) i = some (0, none)) ∧
    (∀ v n, getField bs i = some (some (v, n)) → groupGetField fuel (bufOf bs) i = some (n, some v)) := by
  cases bs with
  | nil => simp [getField]
  | cons c t =>
    have hc : bufOf (c :: t) 0 = c := rfl
    have hc256 : c < 256 := hb c (by simp)
    unfold groupGetField
    simp only [hc]
    constructor
    · intro hd
      have := getField_none_inv hd
      rw [if_pos (by omega)]
    · intro v n hd
      obtain ⟨c0, ws, p, hw, hp, rfl, rfl⟩ := getField_some_inv hd
      have hl := widths_length _ _ ws hw
      have hbm : bitmapSize c ≤ 65 := by unfold bitmapSize; omega
      have hr := width_read (c :: t) ws _ hw i (by omega) (by omega)
      rw [if_neg (by omega), Sizes.groupBitmapSize_eq c hc256, Nat.mod_eq_of_lt (show 1 + bitmapSize c < 2 ^ 64 by omega)]
      generalize groupWidthDecode _ = w at hr ⊢
      have hgd : ws.getD i 1 = w := by rw [List.getD_eq_getElem?_getD, hr]; rfl
      obtain ⟨hw1, hw8⟩ := widths_bounds _ _ _ hw w (List.mem_of_getElem? hr)
      rw [hgd] at hp ⊢
      have hin : 1 + bitmapSize c + (ws.take i).sum + w ≤ (c :: t).length := by
        have := (takeExact_some hp).2.1
        rw [List.length_drop] at this
        omega
      obtain ⟨a', b', c', d', hloop⟩ := getField_loop (c :: t) ws i hi hw (1 + bitmapSize c) (by omega) fuel 0
        (by omega) (by omega) _ _ _ _
      rw [List.take_zero, List.sum_nil, Nat.add_zero] at hloop
      rw [hloop]
      simp only []
      rw [External.extGet_take _ hb _ w p hw1 hw8 hp, Nat.mod_eq_of_lt (by omega)]

end Varint.Bridge.Group
