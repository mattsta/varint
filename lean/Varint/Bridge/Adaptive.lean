import Varint.Gen.CAdaptive
import Varint.Model.Adaptive
import Varint.Bridge.Loop
import Varint.Bridge.Tagged
/-
  Bridge: varintAdaptiveCheckSorted of src/varintAdaptive.c, as translated by tools/c2lean2.py from the CURRENT
  source (loop with early exit), equals the model's isAsc / isDesc for every array shorter than 2^63.
-/
namespace Varint.Bridge.Adaptive
open Varint Varint.Gen.C Varint.Bridge Varint.Adaptive

def post (a d : Nat) : Int := if a ≠ 0 then 1 else if d ≠ 0 then -1 else 0

def finish : LoopR (Nat × Nat × Nat) Int → Option Int
  | .ret r => some r
  | .done (_, a, d) => some (post a d)
  | .nofuel => none

/-- what the function must answer from a state in which `prev :: rest` is still to be compared -/
def res (a d : Nat) (l : List Nat) : Int :=
  if a ≠ 0 ∧ isAsc l = true then 1 else if d ≠ 0 ∧ isDesc l = true then -1 else 0

theorem res_zero (l : List Nat) : res 0 0 l = 0 := by
  simp [res]

/-- one comparison: a descent clears `ascending`, an ascent clears `descending` (the loop's own update) -/
theorem res_cons (a d prev x : Nat) (rest : List Nat) :
    res a d (prev :: x :: rest) = res (if x < prev then 0 else a) (if x > prev then 0 else d) (x :: rest) := by
  unfold res
  simp only [isAsc, isDesc, Bool.and_eq_true, decide_eq_true_eq]
  by_cases c1 : x < prev
  · rw [if_pos c1, if_neg (Nat.lt_asymm c1)]
    simp [Nat.not_le.2 c1, Nat.le_of_lt c1]
  · rw [if_neg c1]
    by_cases c2 : x > prev
    · rw [if_pos c2]
      simp [Nat.not_le.2 c2, Nat.le_of_lt c2]
    · rw [if_neg c2]
      have he : x = prev := by omega
      simp [he]

theorem check_loop (xs : List Nat) (hn : xs.length < 2 ^ 63) :
    ∀ (rest : List Nat) (prev fuel i a d : Nat), 1 ≤ i → xs.drop (i - 1) = prev :: rest →
      rest.length + 1 ≤ fuel →
      finish (adaptiveCheckSorted_loop1 (Bridge.Tagged.bufOf xs) xs.length fuel (i, a, d)) =
        some (res a d (prev :: rest)) := by
  intro rest
  induction rest with
  | nil =>
    intro prev fuel i a d hi hd hf
    obtain ⟨fuel, rfl⟩ : ∃ g, fuel = g + 1 := ⟨fuel - 1, by simp at hf; omega⟩
    have hl : (xs.drop (i - 1)).length = 1 := by rw [hd]; rfl
    rw [List.length_drop] at hl
    have : ¬ i < xs.length := by omega
    unfold adaptiveCheckSorted_loop1
    rw [if_neg this]
    simp [finish, post, res, isAsc, isDesc]
  | cons x rest ih =>
    intro prev fuel i a d hi hd hf
    simp only [List.length_cons] at hf
    obtain ⟨fuel, rfl⟩ : ∃ g, fuel = g + 1 := ⟨fuel - 1, by omega⟩
    have hl : (xs.drop (i - 1)).length = rest.length + 2 := by rw [hd]; rfl
    rw [List.length_drop] at hl
    have hil : i < xs.length := by omega
    obtain ⟨-, hprev, hd1, -⟩ := Bridge.Tagged.walk_cons xs (i - 1) prev (x :: rest) hd
    rw [show i - 1 + 1 = i by omega] at hd1
    have hx := (Bridge.Tagged.walk_cons xs i x rest hd1).2.1
    have hm : (i + 2 ^ 64 - 1) % 2 ^ 64 = i - 1 := by omega
    have hi1 : (i + 1) % 2 ^ 64 = i + 1 := Nat.mod_eq_of_lt (by omega)
    have hz : (if ((if ((0 : Int) ≠ 0) then 1 else 0) ≠ 0) then 1 else 0) = 0 := by decide
    unfold adaptiveCheckSorted_loop1
    simp only [if_pos hil, hm, hprev, hx, hz, hi1]
    rw [res_cons]
    generalize (if x < prev then 0 else a) = a'
    generalize (if x > prev then 0 else d) = d'
    by_cases h0 : ¬ (a' ≠ 0) ∧ ¬ (d' ≠ 0)
    · rw [if_pos h0]
      have ha : a' = 0 := Decidable.not_not.mp h0.1
      have hd : d' = 0 := Decidable.not_not.mp h0.2
      rw [ha, hd, res_zero]
      rfl
    · rw [if_neg h0]
      exact ih x fuel (i + 1) a' d' (by omega) (by simpa using hd1) (by omega)
/-- **`varintAdaptiveCheckSorted(values, count)`** for every array shorter than 2^63 and every fuel ≥ count: 1 when non-decreasing,
    otherwise -1 when non-increasing, otherwise 0 — no neighbour pair is skipped -/
theorem adaptiveCheckSorted_eq (xs : List Nat) (hn : xs.length < 2 ^ 63) (fuel : Nat) (hf : xs.length ≤ fuel) :
    adaptiveCheckSorted fuel (Bridge.Tagged.bufOf xs) xs.length =
      some (if isAsc xs then 1 else if isDesc xs then -1 else 0) := by
  unfold adaptiveCheckSorted
  by_cases c : xs.length ≤ 1
  · rw [if_pos c]
    match xs, c with
    | [], _ => simp [isAsc]
    | [x], _ => simp [isAsc]
  · rw [if_neg c]
    match xs, c, hn, hf with
    | [], c, _, _ => exact absurd (by simp) c
    | [_], c, _, _ => exact absurd (by simp) c
    | x0 :: x1 :: t, _, hn, hf =>
      have h := check_loop (x0 :: x1 :: t) hn (x1 :: t) x0 fuel 1 1 1 (by omega) (by simp) (by simp at hf ⊢; omega)
      have ho : (if ((if ((1 : Int) ≠ 0) then 1 else 0) ≠ 0) then 1 else 0) = 1 := by decide
      simp only [ho]
      cases hl : adaptiveCheckSorted_loop1 (Bridge.Tagged.bufOf (x0 :: x1 :: t)) (x0 :: x1 :: t).length fuel (1, 1, 1) with
      | nofuel => rw [hl] at h; simp [finish] at h
      | ret r =>
        rw [hl] at h
        simp only [finish, Option.some.injEq] at h
        rw [h]; simp [res]
      | done st =>
        obtain ⟨i', a', d'⟩ := st
        rw [hl] at h
        simp only [finish, Option.some.injEq, post] at h
        simp only []
        rw [← (by simp [res] : res 1 1 (x0 :: x1 :: t) = (if isAsc (x0 :: x1 :: t) then 1 else if isDesc (x0 :: x1 :: t) then -1 else 0)), ← h]
        by_cases ha : a' ≠ 0
        · simp [ha]
        · by_cases hd : d' ≠ 0
          · simp [ha, hd]
          · simp [ha, hd]

end Varint.Bridge.Adaptive
