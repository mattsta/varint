import Varint.Gen.CPacked
import Varint.Model.Packed
import Varint.Lemmas.BitField
import Varint.Lemmas.Packed
import Varint.Lemmas.PackedSeq
import Varint.Bridge.Loop
import Varint.Bridge.Bits
/-
  Bridge: the template header src/varintPacked.h instantiated with uint16_t values, uint32_t slots and uint32_t
  lengths, machine-translated by tools/c2lean2.py from what clang sees after the preprocessor has instantiated the
  CURRENT header (harness/vw_packed.c) — Get, Set (one- and two-slot paths, `memcpy` of a whole slot = load/store of
  the slot), SetIncr, SetHalf, BinarySearch (loop), Member, Insert / Delete (loops of Set(Get) over the memory the
  earlier iterations left), InsertSorted, DeleteMember — equal the hand-written model Varint.Packed.* at S = 32, for
  every slot array, every element index whose slots exist, every value that fits; SetIncr for a non-negative
  increment whose result stays in range.

  The translations of two instantiations differ only in the value width, so the proofs are about `Inst b`: any family
  of functions that satisfies the translated text with the width written `b`. `inst12` below (the header's defaults,
  `varintPacked12*`) and `Packed13.inst13` are such families, every equation by `rfl`.
-/
namespace Varint.Bridge.Packed
open Varint Varint.Gen.C Varint.Bridge Varint.BF Varint.Bridge.Bits Varint.Packed

/-- slot index, first bit inside that slot, and bits left in the slot from there, of element `i` -/
def slotOf (b i : Nat) : Nat := i * b % 2 ^ 64 / 32
def startBit (b i : Nat) : Nat := i * b % 2 ^ 64 % 32 % 2 ^ 32
def avail (b i : Nat) : Nat := (32 + 2 ^ 64 - startBit b i) % 2 ^ 64 % 2 ^ 32

/-- one-slot load: `(slot >> startBit) & VALUE_MASK`, cut to the value type -/
def rd1 (b x sb : Nat) : Nat := ((x / 2 ^ sb) &&& (2 ^ b - 1)) % 2 ^ 16

/-- two-slot load: `low | (high & ((VALUE_MASK >> a) << a))`, cut to the value type; `a` = bits available in the
    first slot; the shifted mask is cut to `m` = 2^32 in Get and 2^64 in the copies inlined in SetIncr / SetHalf -/
def rd2 (b x y sb a m : Nat) : Nat :=
  ((x / 2 ^ sb) ||| ((y * 2 ^ a % 2 ^ 64) &&& ((2 ^ b - 1) / 2 ^ a * 2 ^ a % m))) % 2 ^ 16

/-- `(slot & ~(VALUE_MASK << sb)) | (v << sb)` in 64 bits, stored to the 32-bit slot -/
def wr1 (b x sb v : Nat) : Nat :=
  ((x &&& (2 ^ 64 - 1 - (2 ^ b - 1) * 2 ^ sb % 2 ^ 64)) ||| (v * 2 ^ sb % 2 ^ 64)) % 2 ^ 32

/-- `(slot & ~(VALUE_MASK >> a)) | (v >> a)`: the second slot of a two-slot store -/
def wr2 (b y a v : Nat) : Nat := ((y &&& (2 ^ 64 - 1 - (2 ^ b - 1) / 2 ^ a)) ||| (v / 2 ^ a)) % 2 ^ 32

theorem addr (b i : Nat) (hb : b ≤ 16) (hi : i < 2 ^ 32) :
    slotOf b i = i * b / 32 ∧ startBit b i = i * b % 32 ∧ avail b i = 32 - i * b % 32 := by
  have h : i * b % 2 ^ 64 = i * b :=
    Nat.mod_eq_of_lt (Nat.lt_of_le_of_lt (Nat.mul_le_mul (Nat.le_of_lt hi) hb) (by decide))
  have hs : i * b % 32 < 32 := Nat.mod_lt _ (by decide)
  unfold avail startBit slotOf
  rw [h, Nat.mod_eq_of_lt (Nat.lt_trans hs (by decide))]
  exact ⟨rfl, rfl, by omega⟩

theorem rd1_eq (x sb b : Nat) (hb : b ≤ 16) : rd1 b x sb = extract x sb b := by
  unfold rd1 extract mask
  rw [Nat.shiftRight_eq_div_pow]
  apply Nat.mod_eq_of_lt
  apply Nat.lt_of_le_of_lt Nat.and_le_right
  have : 2 ^ b ≤ 2 ^ 16 := Nat.pow_le_pow_right (by omega) hb
  have := Nat.two_pow_pos b
  omega

theorem rd2_eq (x y sb a b : Nat) (hx : x < 2 ^ 32) (hsb : sb + a = 32) (hab : a < b) (hb : b ≤ 16) :
    rd2 b x y sb a (2 ^ 32) = extract x sb a ||| (extract y 0 (b - a)) <<< a := by
  have hmd : (2 ^ b - 1) / 2 ^ a = mask (b - a) := by
    have := mask_div (b - a) a
    rw [show b - a + a = b by omega] at this
    exact this
  unfold rd2
  rw [hmd]
  apply Nat.eq_of_testBit_eq
  intro j
  rw [Nat.testBit_mod_two_pow, Nat.testBit_or, Nat.testBit_and, Nat.testBit_mod_two_pow, Nat.testBit_mod_two_pow,
    ← Nat.shiftLeft_eq, ← Nat.shiftLeft_eq, Nat.testBit_shiftLeft, testBit_mask_shift, Nat.testBit_or,
    Nat.testBit_shiftLeft, testBit_extract, testBit_extract, ← Nat.shiftRight_eq_div_pow, Nat.testBit_shiftRight]
  by_cases h1 : j < a
  · have n1 : ¬ a ≤ j := by omega
    have : j < 16 := by omega
    simp [h1, n1, this]
  · have h2 : a ≤ j := by omega
    have hx0 : x.testBit (sb + j) = false := testBit_false_of_lt hx (by omega)
    by_cases h3 : j - a < b - a
    · have : j < 16 := by omega
      have : j < 64 := by omega
      have : j < 32 := by omega
      simp [*]
    · simp [h1, h2, h3, hx0]

/-- the store, before the conversion to the 32-bit slot type, is the model's `insert` -/
theorem wr1_insert (x sb b v : Nat) (hx : x < 2 ^ 32) (hsb : sb + b ≤ 64) (hv : v < 2 ^ b) :
    wr1 b x sb v = insert x sb b v % 2 ^ 32 := by
  unfold wr1
  rw [cword_insert x sb b v (by omega) hsb hv]

theorem wr1_eq (x sb b v : Nat) (hx : x < 2 ^ 32) (hsb : sb + b ≤ 32) (hv : v < 2 ^ b) :
    wr1 b x sb v = insert x sb b v := by
  rw [wr1_insert x sb b v hx (by omega) hv]
  exact Nat.mod_eq_of_lt (insert_lt x sb b v 32 hx hv hsb)

/-- first slot of a two-slot store: the low `32 - sb` bits of the value land at the top of the slot; the conversion
    to the 32-bit slot type is what cuts the rest off -/
theorem wr1_first (x sb b v : Nat) (hx : x < 2 ^ 32) (hsb : sb ≤ 32) (hb : 32 ≤ sb + b) (hb32 : b ≤ 32)
    (hv : v < 2 ^ b) : wr1 b x sb v = insert x sb (32 - sb) (v &&& mask (32 - sb)) := by
  rw [wr1_insert x sb b v hx (by omega) hv, insert_mod x sb b v 32 hx hsb hb hv]

theorem wr2_eq (y a b v : Nat) (hy : y < 2 ^ 32) (hab : a < b) (hb : b ≤ 32) (hv : v < 2 ^ b) :
    wr2 b y a v = insert y 0 (b - a) (v >>> a) := by
  have hsplit : b = (b - a) + a := by omega
  have h1 := cword_first y (b - a) a v (by omega) (by omega) (by rw [← hsplit]; exact hv)
  rw [← hsplit] at h1
  unfold wr2
  rw [h1]
  exact Nat.mod_eq_of_lt
    (insert_lt y 0 (b - a) (v >>> a) 32 hy (shiftRight_lt v b a hv (by omega)) (by omega))

/-! ### memory seen through the stores made so far -/

theorem memOf_lt32 (ws : List Nat) (h : WordsOK 32 ws) (j : Nat) : memOf ws j < 2 ^ 32 := by
  unfold memOf; exact getD_lt h j

/-- the stores made so far fall inside the slot array and leave 32-bit slots -/
def StoresOK (ws : List Nat) (st : List (Nat × Nat)) : Prop :=
  (∀ p ∈ st, p.1 < ws.length) ∧ WordsOK 32 (applyStores ws st)

def stores1 (b : Nat) (mem : Nat → Nat) (i v : Nat) : List (Nat × Nat) :=
  [(slotOf b i, wr1 b (mem (slotOf b i)) (startBit b i) v)]

def stores2 (b : Nat) (mem : Nat → Nat) (i v : Nat) : List (Nat × Nat) :=
  [(slotOf b i, wr1 b (mem (slotOf b i)) (startBit b i) v),
   (slotOf b i + 1, wr2 b (mem (slotOf b i + 1)) (avail b i) v)]

/-- what the one-slot and the two-slot path read of element `i` -/
def cur1 (b : Nat) (mem : Nat → Nat) (i : Nat) : Nat := rd1 b (mem (slotOf b i)) (startBit b i)
def cur2 (b : Nat) (mem : Nat → Nat) (i m : Nat) : Nat :=
  rd2 b (mem (slotOf b i)) (mem (slotOf b i + 1)) (startBit b i) (avail b i) m

theorem cur1_lt (b : Nat) (mem : Nat → Nat) (i : Nat) : cur1 b mem i < 2 ^ 16 := Nat.mod_lt _ (Nat.two_pow_pos 16)
theorem cur2_lt (b : Nat) (mem : Nat → Nat) (i m : Nat) : cur2 b mem i m < 2 ^ 16 := Nat.mod_lt _ (Nat.two_pow_pos 16)

/-- the shifted mask is below 2^32 already, so where it is cut makes no difference -/
theorem cur2_wide (b : Nat) (mem : Nat → Nat) (i : Nat) (hb : b ≤ 32) : cur2 b mem i (2 ^ 64) = cur2 b mem i (2 ^ 32) := by
  have h : (2 ^ b - 1) / 2 ^ avail b i * 2 ^ avail b i ≤ 2 ^ b - 1 := Nat.div_mul_le_self _ _
  have : 2 ^ b ≤ 2 ^ 32 := Nat.pow_le_pow_right (by omega) hb
  unfold cur2 rd2
  generalize (2 ^ b - 1) / 2 ^ avail b i * 2 ^ avail b i = m at h
  rw [Nat.mod_eq_of_lt (show m < 2 ^ 64 by omega), Nat.mod_eq_of_lt (show m < 2 ^ 32 by omega)]

/-- what SetIncr stores: `cur + d` in the value type, or `cur - d` if that came out below `cur` -/
def incrVal (cur : Nat) (d : Int) : Nat :=
  let v1 := ((((cur : Nat) : Int) + d) % (2 ^ 16 : Int)).toNat
  ((if ((v1 : Nat) : Int) < ((cur : Nat) : Int) then ((((((cur : Nat) : Int) - d) % (2 ^ 16 : Int)).toNat : Nat) : Int)
    else ((v1 : Nat) : Int)) % (2 ^ 16 : Int)).toNat

def halfVal (cur : Nat) : Nat := ((Int.tdiv ((cur : Nat) : Int) (2 : Int)) % (2 ^ 16 : Int)).toNat

/-- `(min + max) >> 1`, the sum taken in 64 bits (in the 32-bit length type it would wrap from 2^31 elements on) -/
def mid (lo hi : Nat) : Nat := (lo + hi) % 2 ^ 64 / 2 ^ 1 % 2 ^ 32

theorem incrVal_eq (cur : Nat) (d : Int) (hd : 0 ≤ d) (h : cur + d.toNat < 2 ^ 16) :
    incrVal cur d = cur + d.toNat := by
  obtain ⟨n, rfl⟩ := Int.eq_ofNat_of_zero_le hd
  have v1 : ((((cur : Nat) : Int) + (n : Int)) % (2 ^ 16 : Int)).toNat = cur + n := by
    rw [← Int.natCast_add, Int.emod_eq_of_lt (Int.natCast_nonneg _) (by exact_mod_cast h), Int.toNat_natCast]
  unfold incrVal
  simp only [Int.toNat_natCast] at h ⊢
  rw [v1, if_neg (by omega), Int.emod_eq_of_lt (Int.natCast_nonneg _) (by exact_mod_cast h), Int.toNat_natCast]

theorem halfVal_eq (cur : Nat) (h : cur < 2 ^ 16) : halfVal cur = cur / 2 := by
  have : Int.tdiv ((cur : Nat) : Int) (2 : Int) = ((cur / 2 : Nat) : Int) := by
    rw [Int.tdiv_eq_ediv_of_nonneg (by omega)]; rfl
  unfold halfVal
  rw [this]; omega

theorem pred32 (i : Nat) (h0 : 0 < i) (hi : i < 2 ^ 32) : (i + 2 ^ 32 - 1) % 2 ^ 32 = i - 1 := by omega

theorem mid_eq (lo hi : Nat) (h : lo ≤ hi) (hhi : hi < 2 ^ 32) : mid lo hi = (lo + hi) / 2 := by
  unfold mid
  rw [Nat.mod_eq_of_lt (show lo + hi < 2 ^ 64 by omega), Nat.pow_one, Nat.mod_eq_of_lt (by omega)]

/-- One instantiation of the header with `b`-bit values: the translated functions and, as equations, their translated
    text. Closed constants are folded (`4 * 8` slot bits, `VALUE_MASK = 2^b - 1` in the value type), reads of a
    buffer not yet stored to are reads of the memory, and the word-level steps are named as above. -/
structure Inst (b : Nat)
    (cGet : (Nat → Nat) → Nat → Nat)
    (cSet : (Nat → Nat) → Nat → Nat → List (Nat × Nat))
    (cSetIncr : (Nat → Nat) → Nat → Int → List (Nat × Nat))
    (cSetHalf : (Nat → Nat) → Nat → List (Nat × Nat))
    (cSearchLoop : (Nat → Nat) → Nat → Nat → Nat × Nat → LoopR (Nat × Nat) Nat)
    (cSearch : Nat → (Nat → Nat) → Nat → Nat → Option Nat)
    (cMember : Nat → (Nat → Nat) → Nat → Nat → Option Int)
    (cInsertLoop : (Nat → Nat) → Nat → Nat → Nat × List (Nat × Nat) → LoopR (Nat × List (Nat × Nat)) (List (Nat × Nat)))
    (cInsert : Nat → (Nat → Nat) → Nat → Nat → Nat → Option (List (Nat × Nat)))
    (cInsertSorted : Nat → (Nat → Nat) → Nat → Nat → Option (List (Nat × Nat)))
    (cDeleteLoop : (Nat → Nat) → Nat → Nat → Nat × List (Nat × Nat) → LoopR (Nat × List (Nat × Nat)) (List (Nat × Nat)))
    (cDelete : Nat → (Nat → Nat) → Nat → Nat → Option (List (Nat × Nat)))
    (cDeleteMember : Nat → (Nat → Nat) → Nat → Nat → Option (Nat × List (Nat × Nat))) : Prop where
  hb1 : 1 ≤ b
  hb16 : b ≤ 16
  get_def : ∀ src i, cGet src i =
    if b ≤ avail b i then cur1 b src i else cur2 b src i (2 ^ 32)
  set_def : ∀ mem i v, cSet mem i v = if b ≤ avail b i then stores1 b mem i v else stores2 b mem i v
  setIncr_def : ∀ mem i d, cSetIncr mem i d =
    if b ≤ avail b i then stores1 b mem i (incrVal (cur1 b mem i) d)
    else stores2 b mem i (incrVal (cur2 b mem i (2 ^ 64)) d)
  setHalf_def : ∀ mem i, cSetHalf mem i =
    if b ≤ avail b i then
      if ¬ cur1 b mem i ≠ 0 then [] else stores1 b mem i (halfVal (cur1 b mem i))
    else
      if ¬ cur2 b mem i (2 ^ 64) ≠ 0 then [] else stores2 b mem i (halfVal (cur2 b mem i (2 ^ 64)))
  bsLoop_succ : ∀ src v f lo hi, cSearchLoop src v (f + 1) (lo, hi) =
    if lo < hi then
      cSearchLoop src v f
        (if ((cGet src (mid lo hi) : Nat) : Int) < ((v : Nat) : Int) then ((mid lo hi + 1) % 2 ^ 32, hi)
         else (lo, mid lo hi))
    else .done (lo, hi)
  bsearch_def : ∀ fuel src len v, cSearch fuel src len v =
    match cSearchLoop src v fuel (0, len) with
    | .nofuel => none
    | .ret r => some r
    | .done (lo, _) => some lo
  member_def : ∀ fuel src len v, cMember fuel src len v =
    match cSearch fuel src len v with
    | none => none
    | some m => if m < len ∧ ((cGet src m : Nat) : Int) = ((v : Nat) : Int) then some ((m : Nat) : Int) else some (-1 : Int)
  insLoop_succ : ∀ mem off f i st, cInsertLoop mem off (f + 1) (i, st) =
    if i > off then
      cInsertLoop mem off f ((i + 2 ^ 32 - 1) % 2 ^ 32,
        st ++ cSet (thru mem st) i (cGet (thru mem st) ((i + 2 ^ 32 - 1) % 2 ^ 32)))
    else .done (i, st)
  insert_def : ∀ fuel mem len off v, cInsert fuel mem len off v =
    match cInsertLoop mem off fuel (len, []) with
    | .nofuel => none
    | .ret r => some r
    | .done (_, st) => some (st ++ cSet (thru mem st) off v)
  insertSorted_def : ∀ fuel mem len v, cInsertSorted fuel mem len v =
    match cSearch fuel (thru mem []) len v with
    | none => none
    | some m =>
      match cInsert fuel (thru mem []) len m v with
      | none => none
      | some st => some st
  delLoop_succ : ∀ mem len f i st, cDeleteLoop mem len (f + 1) (i, st) =
    if i < (len + 2 ^ 32 - 1) % 2 ^ 32 then
      cDeleteLoop mem len f ((i + 1) % 2 ^ 32,
        st ++ cSet (thru mem st) i (cGet (thru mem st) ((i + 1) % 2 ^ 32)))
    else .done (i, st)
  delete_def : ∀ fuel mem len off, cDelete fuel mem len off =
    match cDeleteLoop mem len fuel (off, []) with
    | .nofuel => none
    | .ret r => some r
    | .done (_, st) => some st
  deleteMember_def : ∀ fuel mem len v, cDeleteMember fuel mem len v =
    match cMember fuel (thru mem []) len v with
    | none => none
    | some r =>
      if r ≥ (0 : Int) then
        match cDelete fuel (thru mem []) len (r % (2 ^ 32 : Int)).toNat with
        | none => none
        | some st => some (1, st)
      else some (0, [])

namespace Inst
variable {b : Nat} {ws : List Nat}
  {cGet cSet cSetIncr cSetHalf cSearchLoop cSearch cMember cInsertLoop cInsert cInsertSorted cDeleteLoop cDelete
    cDeleteMember : _}
  (I : Inst b cGet cSet cSetIncr cSetHalf cSearchLoop cSearch cMember cInsertLoop cInsert cInsertSorted cDeleteLoop
    cDelete cDeleteMember)
include I

theorem span (j : Nat) : Span 32 b j := by
  have := I.hb16
  unfold Span; omega

/-- **Get(src, i)** = the model's `get` at S = 32, for every index below 2^32 -/
theorem get_eq (hws : WordsOK 32 ws) (i : Nat) (hi : i < 2 ^ 32) :
    cGet (memOf ws) i = Packed.get 32 b ws i := by
  have hb1 := I.hb1
  have hb16 := I.hb16
  obtain ⟨e0, e1, e2⟩ := addr b i hb16 hi
  have hs : i * b % 32 < 32 := Nat.mod_lt _ (by omega)
  rw [I.get_def]
  unfold Packed.get cur1 cur2
  simp only []
  rw [e0, e1, e2]
  by_cases c : b ≤ 32 - i * b % 32
  · rw [if_pos c, if_pos c]
    exact rd1_eq _ _ b hb16
  · rw [if_neg c, if_neg c]
    exact rd2_eq _ _ _ _ b (memOf_lt32 ws hws _) (by omega) (by omega) hb16

/-- **Set(dst, i, v)**: the C's stores fall inside the slot array when the element's slots exist, and carrying them
    out gives the model's array -/
theorem set_eq (hws : WordsOK 32 ws) (i v : Nat) (hi : i < 2 ^ 32) (hv : v < 2 ^ b) (hf : Fits 32 b i ws) :
    (∀ p ∈ cSet (memOf ws) i v, p.1 < ws.length) ∧
    applyStores ws (cSet (memOf ws) i v) = Packed.set 32 b ws i v := by
  have hb1 := I.hb1
  have hb16 := I.hb16
  obtain ⟨e0, e1, e2⟩ := addr b i hb16 hi
  have hs : i * b % 32 < 32 := Nat.mod_lt _ (by omega)
  have hm := memOf_lt32 ws hws
  obtain ⟨hlen, _⟩ := hf
  rw [I.set_def]
  unfold Packed.set stores1 stores2
  simp only []
  rw [e0, e1, e2]
  by_cases c : b ≤ 32 - i * b % 32
  · rw [if_pos c] at hlen
    rw [if_pos c, if_pos c, wr1_eq _ _ b v (hm _) (by omega) hv]
    exact ⟨by simpa using hlen, rfl⟩
  · rw [if_neg c] at hlen
    rw [if_neg c, if_neg c, wr1_first _ _ b v (hm _) (by omega) (by omega) (by omega) hv,
      wr2_eq _ _ b v (hm _) (by omega) (by omega) hv]
    refine ⟨?_, ?_⟩
    · intro p hp
      simp only [List.mem_cons, List.not_mem_nil, or_false] at hp
      rcases hp with rfl | rfl
      · exact Nat.lt_of_succ_lt hlen
      · exact hlen
    · rw [getD_set_succ]
      rfl

/-- the loop and the model's search run in step, whatever fuel each has left beyond the width of the interval -/
theorem bsearch_loop (hws : WordsOK 32 ws) (v : Nat) :
    ∀ f g lo hi, hi - lo < f → hi - lo < g → hi < 2 ^ 32 →
      ∃ mx, cSearchLoop (memOf ws) v f (lo, hi) = .done (bsearchAux 32 b ws v g lo hi, mx) := by
  intro f
  induction f with
  | zero => intro g lo hi h; exact absurd h (Nat.not_lt_zero _)
  | succ f ih =>
    intro g lo hi hf hg hhi
    obtain ⟨g, rfl⟩ : ∃ g', g = g' + 1 := ⟨g - 1, by omega⟩
    rw [I.bsLoop_succ]
    simp only [bsearchAux]
    by_cases c : lo < hi
    · obtain ⟨h1, h2⟩ : lo ≤ (lo + hi) / 2 ∧ (lo + hi) / 2 < hi := by omega
      rw [if_pos c, if_pos c, mid_eq lo hi (Nat.le_of_lt c) hhi, I.get_eq hws _ (Nat.lt_trans h2 hhi)]
      simp only [Int.ofNat_lt]
      generalize (lo + hi) / 2 = m at h1 h2 ⊢
      by_cases d : Packed.get 32 b ws m < v
      · rw [if_pos d, if_pos d, Nat.mod_eq_of_lt (by omega)]
        exact ih g _ _ (by omega) (by omega) hhi
      · rw [if_neg d, if_neg d]
        exact ih g _ _ (by omega) (by omega) (Nat.lt_trans h2 hhi)
    · rw [if_neg c, if_neg c]
      exact ⟨_, rfl⟩

/-- **BinarySearch(src, len, v)** = the model's lower-bound search, every length below 2^32, every fuel above the length -/
theorem bsearch_eq (hws : WordsOK 32 ws) (len v : Nat) (hlen : len < 2 ^ 32)
    (fuel : Nat) (hf : len < fuel) :
    cSearch fuel (memOf ws) len v = some (Packed.bsearch 32 b ws len v) := by
  obtain ⟨mx, h⟩ := I.bsearch_loop hws v fuel (len + 1) 0 len hf (Nat.lt_succ_self len) hlen
  rw [I.bsearch_def, h]
  rfl

/-- **Member(src, len, v)** = the model's `member` -/
theorem member_eq (hws : WordsOK 32 ws) (len v : Nat) (hlen : len < 2 ^ 32)
    (fuel : Nat) (hf : len < fuel) :
    cMember fuel (memOf ws) len v = some (Packed.member 32 b ws len v) := by
  have hle := bsearch_le 32 b ws len v
  rw [I.member_def, I.bsearch_eq hws len v hlen fuel hf]
  simp only []
  rw [I.get_eq hws _ (by omega)]
  unfold Packed.member
  simp only [Int.natCast_inj]
  split <;> rfl

theorem set_step {st : List (Nat × Nat)} (h : StoresOK ws st) (i v : Nat) (hi : i < 2 ^ 32) (hv : v < 2 ^ b)
    (hf : Fits 32 b i ws) :
    StoresOK ws (st ++ cSet (thru (memOf ws) st) i v) ∧
    applyStores ws (st ++ cSet (thru (memOf ws) st) i v) = Packed.set 32 b (applyStores ws st) i v := by
  obtain ⟨hin, hW⟩ := h
  have hfW : Fits 32 b i (applyStores ws st) := fits_of_length (applyStores_length ws st) hf
  obtain ⟨hr, he⟩ := I.set_eq hW i v hi hv hfW
  rw [applyStores_length] at hr
  have happ : applyStores ws (st ++ cSet (thru (memOf ws) st) i v) = Packed.set 32 b (applyStores ws st) i v := by
    rw [applyStores_append, rdw_memOf ws st hin, he]
  refine ⟨⟨?_, ?_⟩, happ⟩
  · intro p hp
    rcases List.mem_append.mp hp with hp | hp
    · exact hin p hp
    · rw [rdw_memOf ws st hin] at hp; exact hr p hp
  · rw [happ]
    exact (val_set i v (by omega) hv hW hfW).2.1

/-- one iteration's effect: `Set(dst, i, Get(dst, j))` on the memory left by the stores `st` -/
theorem move_step {st : List (Nat × Nat)} (h : StoresOK ws st) (i j : Nat) (hi : i < 2 ^ 32) (hj : j < 2 ^ 32)
    (hf : Fits 32 b i ws) :
    StoresOK ws (st ++ cSet (thru (memOf ws) st) i (cGet (thru (memOf ws) st) j)) ∧
    applyStores ws (st ++ cSet (thru (memOf ws) st) i (cGet (thru (memOf ws) st) j)) =
      Packed.set 32 b (applyStores ws st) i (Packed.get 32 b (applyStores ws st) j) := by
  have e : cGet (thru (memOf ws) st) j = Packed.get 32 b (applyStores ws st) j := by
    rw [rdw_memOf ws st h.1, I.get_eq h.2 j hj]
  rw [e]
  exact I.set_step h i _ hi (get_lt j (by omega) h.2 (I.span j)) hf

theorem insert_loop (ws : List Nat) (off : Nat) :
    ∀ k st f, StoresOK ws st → off + k < 2 ^ 32 → FitsN 32 b ws (off + k + 1) → k < f →
      ∃ st', cInsertLoop (memOf ws) off f (off + k, st) = .done (off, st') ∧ StoresOK ws st' ∧
        applyStores ws st' = shiftUp 32 b k (applyStores ws st) off := by
  intro k
  induction k with
  | zero =>
    intro st f h _ _ hf
    obtain ⟨f, rfl⟩ : ∃ f', f = f' + 1 := ⟨f - 1, by omega⟩
    refine ⟨st, ?_, h, rfl⟩
    rw [I.insLoop_succ, if_neg (by omega)]
    rfl
  | succ k ih =>
    intro st f h hlt hfit hf
    obtain ⟨f, rfl⟩ : ∃ f', f = f' + 1 := ⟨f - 1, by omega⟩
    obtain ⟨h2, happ⟩ := I.move_step h (off + (k + 1)) (off + k) hlt (by omega) (hfit _ (by omega))
    rw [I.insLoop_succ, if_pos (by omega), pred32 _ (by omega) hlt]
    obtain ⟨st', hl, hok, hres⟩ := ih _ f h2 (by omega) (fitsN_mono hfit (by omega)) (by omega)
    refine ⟨st', hl, hok, ?_⟩
    rw [hres, happ]
    rfl

/-- **Insert(dst, len, off, v)**: the stores stay inside the slot array and leave the model's `insertAt` -/
theorem insert_eq (hws : WordsOK 32 ws) (len off v : Nat) (hoff : off ≤ len)
    (hlen : len < 2 ^ 32) (hfit : FitsN 32 b ws (len + 1)) (hv : v < 2 ^ b) (fuel : Nat) (hf : len - off < fuel) :
    ∃ st, cInsert fuel (memOf ws) len off v = some st ∧ (∀ p ∈ st, p.1 < ws.length) ∧
      applyStores ws st = Packed.insertAt 32 b ws len off v := by
  have hk : len = off + (len - off) := by omega
  obtain ⟨st', hl, hok, hres⟩ := I.insert_loop ws off (len - off) [] fuel ⟨by simp, hws⟩ (by omega)
    (by rw [← hk]; exact hfit) hf
  rw [← hk] at hl
  obtain ⟨hok2, he⟩ := I.set_step hok off v (by omega) hv (hfit off (by omega))
  rw [I.insert_def, hl]
  exact ⟨_, rfl, hok2.1, by rw [he, hres]; rfl⟩

theorem delete_loop (ws : List Nat) (len : Nat) (hlen1 : 1 ≤ len) (hlen : len < 2 ^ 32) :
    ∀ k i st f, StoresOK ws st → i + k = len - 1 → FitsN 32 b ws len → k < f →
      ∃ st', cDeleteLoop (memOf ws) len f (i, st) = .done (len - 1, st') ∧ StoresOK ws st' ∧
        applyStores ws st' = shiftDown 32 b k (applyStores ws st) i := by
  have e0 := pred32 len hlen1 hlen
  intro k
  induction k with
  | zero =>
    intro i st f h hik _ hf
    obtain ⟨f, rfl⟩ : ∃ f', f = f' + 1 := ⟨f - 1, by omega⟩
    obtain rfl : i = len - 1 := by omega
    refine ⟨st, ?_, h, rfl⟩
    rw [I.delLoop_succ, e0, if_neg (by omega)]
  | succ k ih =>
    intro i st f h hik hfit hf
    obtain ⟨f, rfl⟩ : ∃ f', f = f' + 1 := ⟨f - 1, by omega⟩
    obtain ⟨h2, happ⟩ := I.move_step h i (i + 1) (by omega) (by omega) (hfit _ (by omega))
    rw [I.delLoop_succ, e0, if_pos (by omega), Nat.mod_eq_of_lt (show i + 1 < 2 ^ 32 by omega)]
    obtain ⟨st', hl, hok, hres⟩ := ih (i + 1) _ f h2 (by omega) hfit (by omega)
    refine ⟨st', hl, hok, ?_⟩
    rw [hres, happ]
    rfl

/-- **Delete(dst, len, off)**, off < len: the stores stay inside the slot array and leave the model's `deleteAt` -/
theorem delete_eq (hws : WordsOK 32 ws) (len off : Nat) (hoff : off < len)
    (hlen : len < 2 ^ 32) (hfit : FitsN 32 b ws len) (fuel : Nat) (hf : len - 1 - off < fuel) :
    ∃ st, cDelete fuel (memOf ws) len off = some st ∧ (∀ p ∈ st, p.1 < ws.length) ∧
      applyStores ws st = Packed.deleteAt 32 b ws len off := by
  obtain ⟨st', hl, hok, hres⟩ := I.delete_loop ws len (by omega) hlen (len - 1 - off) off [] fuel ⟨by simp, hws⟩
    (by omega) hfit hf
  rw [I.delete_def, hl]
  exact ⟨_, rfl, hok.1, hres⟩

/-- **InsertSorted(dst, len, v)** = lower-bound search, then the positional insert -/
theorem insertSorted_eq (hws : WordsOK 32 ws) (len v : Nat) (hlen : len < 2 ^ 32)
    (hfit : FitsN 32 b ws (len + 1)) (hv : v < 2 ^ b) (fuel : Nat) (hf : len < fuel) :
    ∃ st, cInsertSorted fuel (memOf ws) len v = some st ∧ (∀ p ∈ st, p.1 < ws.length) ∧
      applyStores ws st = Packed.insertSorted 32 b ws len v := by
  have hle := bsearch_le 32 b ws len v
  obtain ⟨st, h1, h2, h3⟩ := I.insert_eq hws len (Packed.bsearch 32 b ws len v) v hle hlen hfit hv fuel (by omega)
  rw [I.insertSorted_def, rdw_memOf_nil, I.bsearch_eq hws len v hlen fuel hf]
  simp only [h1]
  exact ⟨st, rfl, h2, h3⟩

/-- **DeleteMember(dst, len, v)** = the model's `deleteMember`: found ⇒ the stores leave the array with the first
    occurrence deleted and the result is true; absent ⇒ the array as it was and false -/
theorem deleteMember_eq (hws : WordsOK 32 ws) (len v : Nat) (hlen : len < 2 ^ 32)
    (hfit : FitsN 32 b ws len) (fuel : Nat) (hf : len < fuel) :
    ∃ r st, cDeleteMember fuel (memOf ws) len v = some (r, st) ∧ (∀ p ∈ st, p.1 < ws.length) ∧
      (applyStores ws st, decide (r = 1)) = Packed.deleteMember 32 b ws len v ∧ (r = 0 ∨ r = 1) := by
  rw [I.deleteMember_def, rdw_memOf_nil, I.member_eq hws len v hlen fuel hf]
  unfold Packed.deleteMember
  simp only []
  by_cases c : Packed.member 32 b ws len v ≥ 0
  · rw [if_pos c, if_pos c]
    -- a non-negative result is an index below len
    obtain ⟨m, hm, hml⟩ : ∃ m : Nat, Packed.member 32 b ws len v = (m : Int) ∧ m < len := by
      unfold Packed.member at c ⊢
      simp only [] at c ⊢
      by_cases d : Packed.bsearch 32 b ws len v < len ∧ Packed.get 32 b ws (Packed.bsearch 32 b ws len v) = v
      · rw [if_pos d]; exact ⟨_, rfl, d.1⟩
      · rw [if_neg d] at c; omega
    rw [hm, show ((m : Int) % (2 ^ 32 : Int)).toNat = m by omega, Int.toNat_natCast]
    obtain ⟨st, h1, h2, h3⟩ := I.delete_eq hws len m hml hlen hfit fuel (by omega)
    simp only [h1]
    exact ⟨_, st, rfl, h2, by rw [h3]; rfl, Or.inr rfl⟩
  · rw [if_neg c, if_neg c]
    exact ⟨_, [], rfl, by simp, rfl, Or.inl rfl⟩

/-- SetIncr(dst, i, d) for a non-negative increment whose result stays in range is `Set(dst, i, Get(dst, i) + d)` -/
theorem setIncr_as_set (mem : Nat → Nat) (i : Nat) (d : Int) (hd : 0 ≤ d) (hr : cGet mem i + d.toNat < 2 ^ b) :
    cSetIncr mem i d = cSet mem i (cGet mem i + d.toNat) := by
  have : 2 ^ b ≤ 2 ^ 16 := Nat.pow_le_pow_right (by omega) I.hb16
  rw [I.get_def] at hr
  rw [I.setIncr_def, I.set_def, I.get_def, cur2_wide _ _ _ (by have := I.hb16; omega)]
  by_cases c : b ≤ avail b i
  · simp only [if_pos c] at hr ⊢
    rw [incrVal_eq _ d hd (by omega)]
  · simp only [if_neg c] at hr ⊢
    rw [incrVal_eq _ d hd (by omega)]

/-- SetHalf(dst, i): nothing stored when the element is 0, otherwise `Set(dst, i, Get(dst, i) / 2)` -/
theorem setHalf_as_set (mem : Nat → Nat) (i : Nat) :
    cSetHalf mem i = if cGet mem i = 0 then [] else cSet mem i (cGet mem i / 2) := by
  rw [I.setHalf_def, I.set_def, I.get_def, cur2_wide _ _ _ (by have := I.hb16; omega)]
  by_cases c : b ≤ avail b i
  · simp only [if_pos c, ne_eq, Decidable.not_not]
    rw [halfVal_eq _ (cur1_lt _ _ _)]
  · simp only [if_neg c, ne_eq, Decidable.not_not]
    rw [halfVal_eq _ (cur2_lt _ _ _ _)]

/-- **SetIncr** on the slot array = the model's `setIncr` (non-negative increment, result in range) -/
theorem setIncr_eq (hws : WordsOK 32 ws) (i d : Nat) (hi : i < 2 ^ 32) (hf : Fits 32 b i ws)
    (hr : Packed.get 32 b ws i + d < 2 ^ b) :
    applyStores ws (cSetIncr (memOf ws) i (d : Int)) = Packed.setIncr 32 b ws i d := by
  have hg := I.get_eq hws i hi
  rw [I.setIncr_as_set (memOf ws) i (d : Int) (by omega) (by rw [hg]; simpa using hr), hg]
  simp only [Int.toNat_natCast]
  exact (I.set_eq hws i _ hi hr hf).2

/-- **SetHalf** on the slot array = the model's `setHalf` -/
theorem setHalf_eq (hws : WordsOK 32 ws) (i : Nat) (hi : i < 2 ^ 32) (hf : Fits 32 b i ws) :
    applyStores ws (cSetHalf (memOf ws) i) = Packed.setHalf 32 b ws i := by
  have hlt : Packed.get 32 b ws i < 2 ^ b := get_lt i (by omega) hws (I.span i)
  rw [I.setHalf_as_set, I.get_eq hws i hi]
  unfold Packed.setHalf
  by_cases c : Packed.get 32 b ws i = 0
  · rw [if_pos c, if_pos c]; rfl
  · rw [if_neg c, if_neg c]
    exact (I.set_eq hws i _ hi (by omega) hf).2

/-! ### the statements of `Props/C09` about the translated C, for any instantiation (`c_packed12_*`, `c_packed13_*` are
    these at `inst12`, `inst13`) -/

theorem set_get (hw : WordsOK 32 ws) (i v : Nat) (hi : i < 2 ^ 32) (hv : v < 2 ^ b)
    (hf : Fits 32 b i ws) :
    (∀ p ∈ cSet (memOf ws) i v, p.1 < ws.length) ∧
    cGet (memOf (applyStores ws (cSet (memOf ws) i v))) i = v ∧
    (∀ j, j ≠ i → j < 2 ^ 32 →
      cGet (memOf (applyStores ws (cSet (memOf ws) i v))) j = cGet (memOf ws) j) ∧
    (∀ p, (p < i * b ∨ i * b + b ≤ p) →
      (val 32 (applyStores ws (cSet (memOf ws) i v))).testBit p = (val 32 ws).testBit p) := by
  have hok := (val_set i v (by omega) hv hw hf).2.1
  obtain ⟨hin, he⟩ := I.set_eq hw i v hi hv hf
  rw [he]
  refine ⟨hin, ?_, ?_, ?_⟩
  · rw [I.get_eq hok i hi]
    exact get_set_self i v (by omega) hv hw hf
  · intro j hji hj
    rw [I.get_eq hok j hj, I.get_eq hw j hj]
    exact get_set_ne i j v (by omega) hv hw hf (fun e => hji e.symm) (I.span j)
  · exact set_bits_outside i v (by omega) hv hw hf

theorem member_spec (hw : WordsOK 32 ws) (len v : Nat) (hlen : len < 2 ^ 32)
    (hsorted : (elems 32 b ws len).Pairwise (· ≤ ·)) (fuel : Nat) (hfu : len < fuel) :
    ∃ r : Int, cMember fuel (memOf ws) len v = some r ∧ (r ≥ 0 ↔ v ∈ elems 32 b ws len) ∧
      (r ≥ 0 → ∃ m : Nat, r = (m : Int) ∧ m < len ∧ cGet (memOf ws) m = v ∧
        ∀ k, k < m → cGet (memOf ws) k ≠ v) ∧ (v ∉ elems 32 b ws len → r = -1) := by
  refine ⟨_, I.member_eq hw len v hlen fuel hfu, member_nonneg_iff len v hsorted, ?_,
    member_neg_of_not_mem len v hsorted⟩
  intro hr
  obtain ⟨m, e, hm, hg, hfirst⟩ := member_first len v hsorted hr
  refine ⟨m, e, hm, ?_, ?_⟩
  · rw [I.get_eq hw m (by omega)]; exact hg
  · intro k hk; rw [I.get_eq hw k (by omega)]; exact hfirst k hk

theorem insertSorted_spec (hw : WordsOK 32 ws) (len v : Nat) (hlen : len < 2 ^ 32)
    (hf : FitsN 32 b ws (len + 1)) (hv : v < 2 ^ b) (hsorted : (elems 32 b ws len).Pairwise (· ≤ ·))
    (fuel : Nat) (hfu : len < fuel) :
    ∃ st, cInsertSorted fuel (memOf ws) len v = some st ∧ (∀ p ∈ st, p.1 < ws.length) ∧
      (elems 32 b (applyStores ws st) (len + 1)).Pairwise (· ≤ ·) ∧
      (elems 32 b (applyStores ws st) (len + 1)).Perm (v :: elems 32 b ws len) := by
  obtain ⟨st, h1, h2, h3⟩ := I.insertSorted_eq hw len v hlen hf hv fuel hfu
  obtain ⟨hs, hp⟩ := insertSorted_sorted_perm (by omega) len v hw hf hv hsorted
  exact ⟨st, h1, h2, by rw [h3]; exact hs, by rw [h3]; exact hp⟩

theorem insert_delete (hw : WordsOK 32 ws) (len off v : Nat) (hlen : len < 2 ^ 32 - 1)
    (hv : v < 2 ^ b) (fuel : Nat) (hfu : len < fuel) :
    (off ≤ len → FitsN 32 b ws (len + 1) →
      ∃ st, cInsert fuel (memOf ws) len off v = some st ∧ (∀ p ∈ st, p.1 < ws.length) ∧
        elems 32 b (applyStores ws st) (len + 1) = (elems 32 b ws len).insertIdx off v) ∧
    (off < len → FitsN 32 b ws len →
      ∃ st, cDelete fuel (memOf ws) len off = some st ∧ (∀ p ∈ st, p.1 < ws.length) ∧
        elems 32 b (applyStores ws st) (len - 1) = (elems 32 b ws len).eraseIdx off) := by
  constructor
  · intro hoff hf
    obtain ⟨st, h1, h2, h3⟩ := I.insert_eq hw len off v hoff (by omega) hf hv fuel (by omega)
    exact ⟨st, h1, h2, by rw [h3]; exact elems_insertAt_insertIdx (by omega) len off v hoff hw hf hv⟩
  · intro hoff hf
    obtain ⟨st, h1, h2, h3⟩ := I.delete_eq hw len off hoff (by omega) hf fuel (by omega)
    exact ⟨st, h1, h2, by rw [h3]; exact elems_deleteAt (by omega) len off hoff hw hf⟩

theorem deleteMember_spec (hw : WordsOK 32 ws) (len v : Nat) (hlen : len < 2 ^ 32)
    (hf : FitsN 32 b ws len) (hsorted : (elems 32 b ws len).Pairwise (· ≤ ·)) (fuel : Nat) (hfu : len < fuel) :
    ∃ r st, cDeleteMember fuel (memOf ws) len v = some (r, st) ∧ (∀ p ∈ st, p.1 < ws.length) ∧
      (v ∈ elems 32 b ws len → r = 1 ∧
        elems 32 b (applyStores ws st) (len - 1) = (elems 32 b ws len).erase v ∧
        (elems 32 b (applyStores ws st) (len - 1)).Pairwise (· ≤ ·)) ∧
      (v ∉ elems 32 b ws len → r = 0 ∧ applyStores ws st = ws) := by
  obtain ⟨r, st, h1, h2, h3, h4⟩ := I.deleteMember_eq hw len v hlen hf fuel hfu
  refine ⟨r, st, h1, h2, ?_, ?_⟩
  · intro hm
    obtain ⟨a, _, _, c, d⟩ := deleteMember_mem (by omega) len v hw hf hsorted hm
    rw [← h3] at a c d
    exact ⟨of_decide_eq_true a, c, d⟩
  · intro hm
    have e := deleteMember_not_mem len v hsorted hm
    rw [← h3] at e
    have e2 : r ≠ 1 := of_decide_eq_false (congrArg Prod.snd e)
    exact ⟨by omega, congrArg Prod.fst e⟩

theorem incr_half (hw : WordsOK 32 ws) (i j d : Nat) (hi : i < 2 ^ 32) (hj : j < 2 ^ 32)
    (hf : Fits 32 b i ws) (hij : i ≠ j) (hd : cGet (memOf ws) i + d < 2 ^ b) :
    cGet (memOf (applyStores ws (cSetIncr (memOf ws) i (d : Int)))) i = cGet (memOf ws) i + d ∧
    cGet (memOf (applyStores ws (cSetIncr (memOf ws) i (d : Int)))) j = cGet (memOf ws) j ∧
    cGet (memOf (applyStores ws (cSetHalf (memOf ws) i))) i = cGet (memOf ws) i / 2 ∧
    cGet (memOf (applyStores ws (cSetHalf (memOf ws) i))) j = cGet (memOf ws) j := by
  rw [I.get_eq hw i hi] at hd ⊢
  rw [I.get_eq hw j hj]
  obtain ⟨hok1, a, c⟩ := setIncr_spec i d (by omega) hw hf hd
  obtain ⟨hok2, e, g⟩ := setHalf_spec i (by omega) hw hf
  rw [I.setIncr_eq hw i d hi hf hd, I.setHalf_eq hw i hi hf, I.get_eq hok1 i hi, I.get_eq hok1 j hj,
    I.get_eq hok2 i hi, I.get_eq hok2 j hj]
  exact ⟨a, c j hij (I.span j), e, g j hij (I.span j)⟩

end Inst

/-- the header's defaults: 12-bit values, `varintPacked12*` -/
theorem inst12 : Inst 12 packed12Get packed12Set packed12SetIncr packed12SetHalf packed12BinarySearch_loop1
    packed12BinarySearch packed12Member packed12Insert_loop1 packed12Insert packed12InsertSorted packed12Delete_loop1
    packed12Delete packed12DeleteMember where
  hb1 := by omega
  hb16 := by omega
  get_def := fun _ _ => rfl
  set_def := fun _ _ _ => rfl
  setIncr_def := fun _ _ _ => rfl
  setHalf_def := fun _ _ => rfl
  bsLoop_succ := fun _ _ _ _ _ => rfl
  bsearch_def := fun _ _ _ _ => rfl
  member_def := fun _ _ _ _ => rfl
  insLoop_succ := fun _ _ _ _ _ => rfl
  insert_def := fun _ _ _ _ _ => rfl
  insertSorted_def := fun _ _ _ _ => rfl
  delLoop_succ := fun _ _ _ _ _ => rfl
  delete_def := fun _ _ _ _ => rfl
  deleteMember_def := fun _ _ _ _ => rfl

theorem bsearch_loop (ws : List Nat) (hws : WordsOK 32 ws) (v : Nat) :
    ∀ n lo hi, hi - lo ≤ n → hi < 2 ^ 32 → ∀ f g, n < f → n < g →
      ∃ mx, packed12BinarySearch_loop1 (memOf ws) v f (lo, hi) = .done (bsearchAux 32 12 ws v g lo hi, mx) :=
  fun _ lo hi h hhi f g hf hg =>
    inst12.bsearch_loop hws v f g lo hi (Nat.lt_of_le_of_lt h hf) (Nat.lt_of_le_of_lt h hg) hhi

/-- **`varintPacked12BinarySearch(src, len, v)`** = the model's lower-bound search, every length below 2^32, every fuel
    above the length -/
theorem packed12BinarySearch_eq (ws : List Nat) (hws : WordsOK 32 ws) (len v : Nat) (hlen : len < 2 ^ 32)
    (fuel : Nat) (hf : len < fuel) :
    packed12BinarySearch fuel (memOf ws) len v = some (Packed.bsearch 32 12 ws len v) :=
  inst12.bsearch_eq hws len v hlen fuel hf

end Varint.Bridge.Packed
