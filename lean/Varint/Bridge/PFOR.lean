import Varint.Gen.CPFOR
import Varint.Model.PFOR
import Varint.Bridge.Loop
import Varint.Bridge.Tagged
/-
  Bridge: varintPFORCalculateMarker and varintPFORSize (the advertised size of a PFOR encoding: a loop that adds the
  worst-case exception record once per exception) of src/varintPFOR.c, as translated by tools/c2lean2.py from the CURRENT
  source, equal the model's `PFOR.marker` / `PFOR.size`. (`varintPFORGetAt` is translated too; it has no bridge yet.)
-/
namespace Varint.Bridge.PFOR
open Varint Varint.Gen.C Varint.Bridge

/-- **`varintPFORCalculateMarker(w)`** for every width -/
theorem pforMarker_eq (w : Nat) : pforMarker w = PFOR.marker w := by
  unfold pforMarker PFOR.marker
  by_cases c : w ≥ 8
  · rw [if_pos c, if_pos c]
  · rw [if_neg c, if_neg c]
    have hw8 : w = 0 ∨ w = 1 ∨ w = 2 ∨ w = 3 ∨ w = 4 ∨ w = 5 ∨ w = 6 ∨ w = 7 := by omega
    rcases hw8 with rfl | rfl | rfl | rfl | rfl | rfl | rfl | rfl <;> decide

theorem len_max : Tagged.len 18446744073709551615 = 9 := by decide

/-- each exception adds the length `L` of the largest index (count − 1) and the 9 bytes of the largest value -/
theorem size_loop (cnt ec L : Nat) (hL : L ≤ 9) (hec : ec < 2 ^ 32)
    (hl : taggedLen (if cnt > 0 then (cnt + 2 ^ 32 - 1) % 2 ^ 32 else 0) = L) :
    ∀ (fuel i sz : Nat), i ≤ ec → ec - i < fuel → sz + 18 * (ec - i) < 2 ^ 64 →
      pforSize_loop1 cnt ec fuel (i, sz) = .done (ec, sz + (ec - i) * (L + 9)) := by
  intro fuel
  induction fuel with
  | zero => intro i sz _ hf; omega
  | succ f ih =>
    intro i sz hi hf hsz
    by_cases c : i < ec
    · simp only [pforSize_loop1, if_pos c, hl]
      rw [Tagged.taggedLen_eq 18446744073709551615 (by decide), len_max,
        Nat.mod_eq_of_lt (show i + 1 < 2 ^ 32 by omega),
        show ((sz + L) % 2 ^ 64 + 9) % 2 ^ 64 = sz + (L + 9) by omega,
        ih (i + 1) (sz + (L + 9)) (by omega) (by omega) (by omega),
        show ec - i = (ec - (i + 1)) + 1 by omega, Nat.succ_mul]
      congr 2
      omega
    · have : i = ec := by omega
      subst this
      simp [pforSize_loop1]

/-- **`varintPFORSize(meta)`** = the model's advertised size, for every 64-bit minimum, 32-bit count and exception count,
    width ≤ 8; every fuel above the exception count -/
theorem pforSize_eq (m : PFOR.Meta) (hmn : m.min < 2 ^ 64) (hc : m.count < 2 ^ 32) (hw : m.width ≤ 8)
    (he : m.exceptionCount < 2 ^ 32) (fuel : Nat) (hf : m.exceptionCount < fuel) :
    pforSize fuel m.min m.count m.width m.exceptionCount = some (PFOR.size m) := by
  have l1 := (Tagged.len_bounds m.min).2
  have l2 := (Tagged.len_bounds m.count).2
  have l3 := (Tagged.len_bounds m.exceptionCount).2
  have l4 := (Tagged.len_bounds (m.count - 1)).2
  have hcw : m.count * m.width ≤ 2 ^ 32 * 8 := Nat.mul_le_mul (by omega) hw
  have harg : (if m.count > 0 then (m.count + 2 ^ 32 - 1) % 2 ^ 32 else 0) = m.count - 1 := by
    split <;> omega
  have hL : taggedLen (if m.count > 0 then (m.count + 2 ^ 32 - 1) % 2 ^ 32 else 0) = Tagged.len (m.count - 1) := by
    rw [harg, Tagged.taggedLen_eq _ (by omega)]
  unfold pforSize PFOR.size
  simp only []
  rw [Tagged.taggedLen_eq _ hmn, Tagged.taggedLen_eq _ (by omega), Tagged.taggedLen_eq _ (by omega)]
  simp only [Nat.mod_add_mod, Nat.add_mod_mod, Nat.zero_add]
  rw [Nat.mod_eq_of_lt (by omega)]
  rw [size_loop m.count m.exceptionCount (Tagged.len (m.count - 1)) l4 he hL fuel 0 _ (by omega) (by omega) (by omega),
    Nat.sub_zero]

end Varint.Bridge.PFOR
