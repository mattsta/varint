import Varint.Gen.CBits
import Varint.Model.Bitstream
import Varint.Bridge.Loop
/-
  Bridge: the signed helpers of src/varintBitstream.h (`_varintBitstreamPrepareSigned`, `_varintBitstreamRestoreSigned`),
  expanded by clang inside harness/vw_bits.c and translated from the CURRENT header, equal the model's
  `prepareSigned` / `restoreSigned` for every field width 2..63: Prepare on a negative value whose magnitude fits
  n-1 bits, Restore on every n-bit stored value.
-/
namespace Varint.Bridge.BitsSigned
open Varint Varint.Gen.C Varint.Bitstream

/-- the sign bit `1ULL << (n - 1)` as both helpers compute it, and where it lies -/
theorem sign_bit (n : Nat) (h2 : 2 ≤ n) (h63 : n ≤ 63) :
    1 * 2 ^ ((n + 2 ^ 32 - 1) % 2 ^ 32) % 2 ^ 64 = 2 ^ (n - 1) ∧ 2 ^ (n - 1) < 2 ^ 63 ∧ 2 ^ (n - 1) < 2 ^ n := by
  have hp63 : 2 ^ (n - 1) < 2 ^ 63 := Nat.pow_lt_pow_right (by omega) (by omega)
  rw [show (n + 2 ^ 32 - 1) % 2 ^ 32 = n - 1 by omega, Nat.one_mul, Nat.mod_eq_of_lt (by omega)]
  exact ⟨rfl, hp63, Nat.pow_lt_pow_right (by omega) (by omega)⟩

/-- **`_varintBitstreamPrepareSigned(val, n)`** on a negative value whose magnitude fits n-1 bits -/
theorem bitsPrepareSigned_eq (s : Int) (n : Nat) (h2 : 2 ≤ n) (h63 : n ≤ 63) (hneg : s < 0)
    (hmag : (-s).toNat < 2 ^ (n - 1)) : bitsPrepareSigned s n = prepareSigned n s := by
  obtain ⟨ebit, hp63, hpn⟩ := sign_bit n h2 h63
  unfold bitsPrepareSigned prepareSigned
  rw [if_pos hneg]
  have e2 : ((-s) % (2 ^ 64 : Int)).toNat = (-s).toNat := by omega
  simp only [ebit, e2]
  have hx : (-s).toNat ^^^ 2 ^ (n - 1) < 2 ^ 63 :=
    Nat.xor_lt_two_pow (by omega) hp63
  rw [sx_of_lt 64 _ (by omega)]
  omega

/-- **`_varintBitstreamRestoreSigned(result, n)`** on every n-bit stored value -/
theorem bitsRestoreSigned_eq (r n : Nat) (h2 : 2 ≤ n) (h63 : n ≤ 63) (hr : r < 2 ^ n) :
    bitsRestoreSigned r n = restoreSigned n r := by
  obtain ⟨ebit, hp63, hpn⟩ := sign_bit n h2 h63
  have hn63 : 2 ^ n ≤ 2 ^ 63 := Nat.pow_le_pow_right (by omega) h63
  unfold bitsRestoreSigned restoreSigned
  simp only [ebit]
  simp only [show (n + 2 ^ 32 - 1) % 2 ^ 32 = n - 1 by omega]
  rw [sx_of_lt 64 r (by omega)]
  have ediv : ((r : Nat) : Int) / 2 ^ (n - 1) = ((r / 2 ^ (n - 1) : Nat) : Int) := by
    rw [Int.natCast_ediv]; rfl
  rw [ediv]
  have emod : ((r : Nat) : Int) % (2 ^ 64 : Int) = ((r : Nat) : Int) := by omega
  by_cases c : r / 2 ^ (n - 1) % 2 = 1
  · have c' : (((r / 2 ^ (n - 1) : Nat) : Int) % (2 : Int)) ≠ 0 := by omega
    rw [if_pos c', if_pos c]
    have e2 : (((r : Nat) : Int) % (2 ^ 64 : Int)).toNat = r := by omega
    simp only [e2]
    have hx : r ^^^ 2 ^ (n - 1) < 2 ^ 63 := Nat.xor_lt_two_pow (by omega) hp63
    rw [sx_of_lt 64 _ (by omega)]
  · have c' : ¬ (((r / 2 ^ (n - 1) : Nat) : Int) % (2 : Int)) ≠ 0 := by omega
    rw [if_neg c', if_neg c]

end Varint.Bridge.BitsSigned
