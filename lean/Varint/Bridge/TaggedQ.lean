import Varint.Gen.CTaggedQ
import Varint.Model.Tagged
import Varint.Lemmas.Tagged
import Varint.Bridge.Tagged
/-
  Bridge: the inline ("quick") macros of src/varintTagged.h — varintTaggedLenQuick, varintTaggedGetLenQuick_,
  varintTaggedGet64Quick_, varintTaggedPut64FixedWidthQuick_ — expanded by clang inside harness/vw_tagged.c from the
  CURRENT header and translated by tools/c2lean2.py.  The put macro is expanded with an argument of low operator
  precedence (`lo | hi`): a parameter used without parentheses inside the macro would change the translated term.
-/
namespace Varint.Bridge.TaggedQ
open Varint Varint.Gen.C

/-- `varintTaggedLenQuick(v)` = `varintTaggedLen(v)` = the model's length -/
theorem taggedLenQuick_eq (v : Nat) (hv : v < 2 ^ 64) : taggedLenQuick v = Tagged.len v := by
  have h9 := (Tagged.len_bounds v).2
  unfold taggedLenQuick
  rw [Bridge.Tagged.taggedLen_eq v hv]
  show Tagged.lenQuick v % 2 ^ 8 = _
  rw [Tagged.lenQuick_eq, Nat.mod_eq_of_lt (by omega)]

/-- `varintTaggedGetLenQuick_(z)` looks at the first byte only -/
theorem taggedGetLenQuick_eq (z : Nat → Nat) (h : z 0 < 256) : taggedGetLenQuick z = Tagged.getLen (z 0) := by
  unfold taggedGetLenQuick Tagged.getLen
  repeat' split
  all_goals omega

/-- **`varintTaggedPut64FixedWidthQuick_(dst, lo | hi, width)`** stores exactly what
    `varintTaggedPut64FixedWidth(dst, lo | hi, width)` stores — for every value and every width argument -/
theorem taggedPutFixedQuick_eq (lo hi w : Nat) :
    taggedPutFixedQuick lo hi w = (taggedPut64FixedWidth (lo ||| hi) w).2 := by
  unfold taggedPutFixedQuick taggedPut64FixedWidth
  simp only []
  by_cases c1 : w = 1
  · simp [c1]
  · by_cases c2 : w = 2
    · simp [c2]
    · by_cases c3 : w = 3
      · simp [c3]
      · simp [c1, c2, c3]


/-- **`varintTaggedGet64Quick_(src)`** on a buffer holding `bs`: the model's quick reader (inline arms for the one-,
    two- and three-byte forms, `varintTaggedGet64ReturnValue` otherwise) -/
theorem taggedGet64Quick_eq (bs : List Nat) (hb : ∀ b ∈ bs, b < 256) (v : Nat) (h : Tagged.getQuick bs = some v) :
    taggedGet64Quick (Bridge.Tagged.bufOf bs) = v := by
  rcases bs with _ | ⟨b0, rest⟩
  · simp [Tagged.getQuick] at h
  have h0 : b0 < 256 := hb b0 (by simp)
  unfold taggedGet64Quick
  unfold Tagged.getQuick at h
  simp only [show Bridge.Tagged.bufOf (b0 :: rest) 0 = b0 from rfl] at h ⊢
  -- the macro's tests on the promoted first byte are the model's, arm by arm
  split at h
  · rw [if_pos (by omega)]
    exact Option.some.inj h
  rw [if_neg (by omega)]
  split at h
  · rw [if_pos (by omega)]
    rcases rest with _ | ⟨b1, r⟩
    · simp at h
    have h1 : b1 < 256 := hb b1 (by simp)
    simp only [Option.some.injEq] at h
    simp only [show Bridge.Tagged.bufOf (b0 :: b1 :: r) 1 = b1 from rfl]
    omega
  rw [if_neg (by omega)]
  split at h
  · rw [if_pos (by omega)]
    rcases rest with _ | ⟨b1, _ | ⟨b2, r⟩⟩
    · simp at h
    · simp at h
    have h1 : b1 < 256 := hb b1 (by simp)
    have h2 : b2 < 256 := hb b2 (by simp)
    simp only [Option.some.injEq] at h
    simp only [show Bridge.Tagged.bufOf (b0 :: b1 :: b2 :: r) 1 = b1 from rfl,
      show Bridge.Tagged.bufOf (b0 :: b1 :: b2 :: r) 2 = b2 from rfl]
    omega
  rw [if_neg (by omega)]
  unfold taggedGet64ReturnValue
  cases hg : Tagged.get (b0 :: rest) with
  | fault => rw [hg] at h; simp at h
  | short => rw [hg] at h; simp at h
  | ok v' l =>
    rw [hg] at h
    simp only [Bridge.Tagged.taggedGet64_eq (b0 :: rest) hb (by rw [hg]; simp), hg, Option.getD_some]
    exact Option.some.inj h

end Varint.Bridge.TaggedQ
