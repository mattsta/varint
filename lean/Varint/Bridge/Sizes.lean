import Varint.Gen.CSizes
import Varint.Bridge.Tagged
import Varint.Model.RLE
import Varint.Model.BP128
import Varint.Model.Elias
import Varint.Model.Delta
import Varint.Model.Adaptive
import Varint.Model.Float
import Varint.Model.FOR
import Varint.Model.Group
/-
  Bridge: the sizing functions, zig-zag maps and group width codes of the C, as translated by
  tools/c2lean.py from the CURRENT headers/sources (Varint.Gen.C.*), equal the model's definitions
  (which the C03/C02/C16 theorems are about) wherever the C's size_t arithmetic does not wrap.
-/
namespace Varint.Bridge.Sizes
open Varint Varint.Gen.C

theorem rleMaxSize_eq (n : Nat) (h : n < 2 ^ 60) : rleMaxSize n = RLE.maxSize n := by
  unfold rleMaxSize RLE.maxSize; omega

theorem bp128MaxBytes_eq (n : Nat) (h : n < 2 ^ 60) : bp128MaxBytes n = BP128.maxBytes n := by
  unfold bp128MaxBytes BP128.maxBytes
  simp only []
  split <;> omega

theorem eliasMaxBytes_eq (n : Nat) (h : n < 2 ^ 56) :
    eliasGammaMaxBytes n = Elias.gammaMaxBytes n ∧ eliasDeltaMaxBytes n = Elias.deltaMaxBytes n := by
  unfold eliasGammaMaxBytes eliasDeltaMaxBytes Elias.gammaMaxBytes Elias.deltaMaxBytes
  constructor <;> omega

theorem deltaMaxEncodedSize_eq (n : Nat) (h : n < 2 ^ 60) : deltaMaxEncodedSize n = Delta.maxSize n := by
  unfold deltaMaxEncodedSize Delta.maxSize
  split <;> omega

theorem adaptiveMaxSize_eq (n : Nat) (h : n < 2 ^ 59) : adaptiveMaxSize n = Adaptive.maxSize n := by
  unfold adaptiveMaxSize Adaptive.maxSize
  split <;> omega

theorem floatMantissaBits_eq (p : Nat) : floatPrecisionMantissaBits p = Float.mantBits p := by
  unfold floatPrecisionMantissaBits Float.mantBits
  simp only []
  split
  · next h => subst h; rfl
  · split
    · next h => subst h; rfl
    · split
      · next h => subst h; rfl
      · split
        · next h => subst h; rfl
        · split
          · omega
          · omega
          · omega
          · rfl

theorem floatMaxEncodedSize_eq (n p : Nat) (h : n < 2 ^ 56) : floatMaxEncodedSize n p = Float.maxSize n p := by
  unfold floatMaxEncodedSize Float.maxSize
  simp only [floatMantissaBits_eq]
  have hm : Float.mantBits p ≤ 52 := by unfold Float.mantBits; split <;> omega
  have hmul : Float.mantBits p * n ≤ 52 * n := Nat.mul_le_mul_right n hm
  split
  · rfl
  · generalize Float.mantBits p * n = q at hmul ⊢
    -- a sum reduced mod 2^64 after every addition is the sum reduced once; and the total is below 2^64
    simp only [Nat.mod_add_mod, Nat.add_mod_mod]
    rw [Nat.mod_eq_of_lt (show n + 7 < 2 ^ 64 by omega), Nat.mod_eq_of_lt (show q + 7 < 2 ^ 64 by omega)]
    exact Nat.mod_eq_of_lt (by omega)

theorem forSize_eq (mn cnt w : Nat) (hmn : mn < 2 ^ 64) (hc : cnt < 2 ^ 56) (hw : w ≤ 8) :
    forSize mn cnt w = FOR.size mn cnt w := by
  unfold forSize FOR.size
  simp only []
  rw [Varint.Bridge.Tagged.taggedLen_eq mn hmn, Varint.Bridge.Tagged.taggedLen_eq cnt (by omega)]
  have h1 := Tagged.len_bounds mn
  have h2 := Tagged.len_bounds cnt
  have : cnt * w ≤ cnt * 8 := Nat.mul_le_mul_left cnt hw
  generalize cnt * w = q at this ⊢
  omega

theorem groupBitmapSize_eq (n : Nat) (h : n < 256) : groupBitmapSize n = Group.bitmapSize n := by
  unfold groupBitmapSize Group.bitmapSize
  have : (Int.tdiv (((n : Nat) : Int) * 2 + 7) 8) = (((n * 2 + 7) / 8 : Nat) : Int) := by
    rw [Int.tdiv_eq_ediv_of_nonneg (by omega)]; omega
  have h2 : (((n : Nat) : Int) * (2 : Int) + (7 : Int)) = (((n : Nat) : Int) * 2 + 7) := rfl
  rw [h2, this]
  omega

theorem groupWidthDecode_eq (c : Nat) : groupWidthDecode c = Group.width c := by
  unfold groupWidthDecode Group.width
  have key : ((c : Nat) : Int) % (4 : Int) = ((c % 4 : Nat) : Int) := by omega
  simp only [key]
  have h : c % 4 = 0 ∨ c % 4 = 1 ∨ c % 4 = 2 ∨ c % 4 = 3 := by omega
  rcases h with h | h | h | h <;> rw [h] <;> decide

theorem groupWidthEncode_eq (w : Nat) (h : w = 1 ∨ w = 2 ∨ w = 4 ∨ w = 8) : groupWidthEncode w = Group.code w := by
  rcases h with h | h | h | h <;> subst h <;> rfl


/-! ## zig-zag: the C's shift/xor formulation equals the model's arithmetic one on all 2^64 patterns -/

theorem xor_allones (a : Nat) (h : a < 2 ^ 64) : a ^^^ (2 ^ 64 - 1) = 2 ^ 64 - 1 - a := by
  apply Nat.eq_of_testBit_eq
  intro i
  have e : 2 ^ 64 - 1 - a = 2 ^ 64 - (a + 1) := by omega
  rw [Nat.testBit_xor, Nat.testBit_two_pow_sub_one, e, Nat.testBit_two_pow_sub_succ h]
  by_cases hi : i < 64
  · simp [hi]
  · have : a.testBit i = false :=
      Nat.testBit_lt_two_pow (Nat.lt_of_lt_of_le h (Nat.pow_le_pow_right (by omega) (by omega)))
    simp [hi, this]

theorem sx64_eq (v : Nat) : sx 64 v = toI64 v := by
  unfold sx toI64
  rfl

theorem deltaZigZag_eq (x : Nat) (hx : x < 2 ^ 64) : deltaZigZag (toI64 x) = Delta.zz x := by
  unfold deltaZigZag toI64 Delta.zz
  simp only []
  by_cases h : x < 2 ^ 63
  · have h1 : x % 2 ^ 64 < 2 ^ 63 := by omega
    rw [if_pos h1, if_pos h]
    have hn : ¬ (((x % 2 ^ 64 : Nat) : Int) < 0) := by omega
    rw [if_neg hn]
    have e1 : ((0 : Int) % (2 ^ 64 : Int)).toNat = 0 := by decide
    have e2 : ((((x % 2 ^ 64 : Nat) : Int)) % (2 ^ 64 : Int)).toNat = x := by omega
    rw [e1, e2, Nat.xor_zero]
    omega
  · have h1 : ¬ x % 2 ^ 64 < 2 ^ 63 := by omega
    rw [if_neg h1, if_neg h]
    have hn : (((x % 2 ^ 64 : Nat) : Int) - (2 ^ 64 : Int) < 0) := by omega
    rw [if_pos hn]
    have e1 : ((-(1 : Int)) % (2 ^ 64 : Int)).toNat = 2 ^ 64 - 1 := by decide
    have e2 : ((((x % 2 ^ 64 : Nat) : Int) - (2 ^ 64 : Int)) % (2 ^ 64 : Int)).toNat = x := by omega
    rw [e1, e2, xor_allones _ (by omega)]
    omega

theorem deltaZigZagDecode_eq (z : Nat) (hz : z < 2 ^ 64) : deltaZigZagDecode z = toI64 (Delta.unzz z) := by
  unfold deltaZigZagDecode Delta.unzz
  rw [sx64_eq, sx64_eq]
  by_cases h : z % 2 = 0
  · rw [if_pos h, h]
    have e1 : ((-(toI64 0)) % (2 ^ 64 : Int)).toNat = 0 := by decide
    rw [e1, Nat.xor_zero]
  · rw [if_neg h]
    have h1 : z % 2 = 1 := by omega
    rw [h1]
    have e1 : ((-(toI64 1)) % (2 ^ 64 : Int)).toNat = 2 ^ 64 - 1 := by decide
    have : z / 2 ^ 1 = z / 2 := by omega
    rw [e1, this, xor_allones _ (by omega)]

end Varint.Bridge.Sizes
