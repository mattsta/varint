import Varint.Bridge.Loop
/-
  Memory as the translated C meets it. A buffer handed to the C is a list seen as a function (`Tagged.bufOf` for bytes,
  `Bits.memOf` for slots: the same function), with the facts about reading it at an index, over a range, from an
  offset, and while walking it. What the C stores comes back as a store list; `External.Writes st bs` says that `st`
  leaves exactly the bytes `bs`, each index once, and the `writes_*` lemmas compose such effects along a pointer walk.
-/
namespace Varint.Bridge.Tagged

/-- the memory seen by the C: the bytes of `bs`, and 0 outside (never looked at unless the model says `.fault`) -/
def bufOf (bs : List Nat) : Nat → Nat := fun i => bs.getD i 0

theorem bufOf_lt (bs : List Nat) (hb : ∀ b ∈ bs, b < 256) (i : Nat) : bufOf bs i < 256 :=
  getD_zero_lt bs hb (by omega) i

theorem bufOf_getElem (bs : List Nat) (i : Nat) (h : i < bs.length) : bufOf bs i = bs[i] := by
  unfold bufOf
  rw [List.getD_eq_getElem?_getD, List.getElem?_eq_getElem h]
  rfl

/-- `n` consecutive reads from offset `off` inside the buffer are a slice of it -/
theorem range_map_bufOf (buf : List Nat) (off n : Nat) (h : off + n ≤ buf.length) :
    (List.range n).map (fun i => bufOf buf (off + i)) = (buf.drop off).take n := by
  apply List.ext_getElem
  · simp; omega
  · intro i h1 h2
    simp only [List.getElem_map, List.getElem_range, List.getElem_take, List.getElem_drop]
    exact bufOf_getElem buf _ (by simp at h1; omega)

/-- what `bufOf` shows of a buffer -/
theorem bufOf_of_getElem? (buf : List Nat) (k x : Nat) (h : buf[k]? = some x) : x = bufOf buf k := by
  unfold bufOf
  rw [List.getD_eq_getElem?_getD, h, Option.getD_some]

theorem bufOf_shift (bs : List Nat) (p : Nat) :
    (fun i => bufOf bs (p + i)) = bufOf (bs.drop p) := by
  funext i
  unfold bufOf
  rw [List.getD_eq_getElem?_getD, List.getD_eq_getElem?_getD, List.getElem?_drop]

theorem mem_drop_lt (bs : List Nat) (hb : ∀ b ∈ bs, b < 256) (p : Nat) : ∀ b ∈ bs.drop p, b < 256 :=
  fun b h => hb b (List.mem_of_mem_drop h)

/-- the element under the cursor of an array walk, and what is left after it -/
theorem walk_cons (xs : List Nat) (i x : Nat) (rest : List Nat) (h : xs.drop i = x :: rest) :
    i < xs.length ∧ bufOf xs i = x ∧ xs.drop (i + 1) = rest ∧ x ∈ xs := by
  have hi : i < xs.length := by
    have := congrArg List.length h
    rw [List.length_drop, List.length_cons] at this
    omega
  rw [List.drop_eq_getElem_cons hi] at h
  obtain ⟨rfl, rfl⟩ := List.cons.inj h
  exact ⟨hi, bufOf_getElem xs i hi, rfl, List.getElem_mem hi⟩

end Varint.Bridge.Tagged

namespace Varint.Bridge.Bits
open Varint.Gen.C Varint.Bridge

/-- the slot array seen as memory -/
def memOf (ws : List Nat) : Nat → Nat := fun j => ws.getD j 0

theorem memOf_lt (ws : List Nat) (h : ∀ w ∈ ws, w < 2 ^ 64) (j : Nat) : memOf ws j < 2 ^ 64 :=
  getD_zero_lt ws h (by omega) j

theorem memOf_eq_bufOf : memOf = Tagged.bufOf := rfl

theorem memOf_set (ws : List Nat) (j x : Nat) (hj : j < ws.length) :
    memOf (ws.set j x) = fun k => if k = j then x else memOf ws k := by
  funext k
  unfold memOf
  rw [List.getD_eq_getElem?_getD, List.getD_eq_getElem?_getD]
  by_cases c : k = j
  · subst c; simp [hj]
  · rw [if_neg c, List.getElem?_set_ne (fun e => c e.symm)]

/-- the second slot of a two-slot write, read after the first store, is what it was before -/
theorem getD_set_succ (ws : List Nat) (j x : Nat) : (ws.set j x).getD (j + 1) 0 = memOf ws (j + 1) := by
  unfold memOf
  rw [List.getD_eq_getElem?_getD, List.getD_eq_getElem?_getD, List.getElem?_set_ne (by omega)]

end Varint.Bridge.Bits

namespace Varint.Bridge.Packed
open Varint.Gen.C Varint.Bridge Varint.Bridge.Bits

/-- the buffer as the C reads it once the stores `st` have been made -/
abbrev thru (mem : Nat → Nat) (st : List (Nat × Nat)) : Nat → Nat := fun k => rdw mem st (0 + k)

/-- reading through the stores = reading the memory they leave (all stores inside the array) -/
theorem rdw_memOf (ws : List Nat) (st : List (Nat × Nat)) (h : ∀ p ∈ st, p.1 < ws.length) :
    thru (memOf ws) st = memOf (applyStores ws st) := by
  induction st generalizing ws with
  | nil => funext i; simp [rdw, applyStores]
  | cons p st ih =>
    have hp := h p (by simp)
    have := ih (ws.set p.1 p.2) (by intro q hq; simp only [List.length_set]; exact h q (by simp [hq]))
    rw [memOf_set ws p.1 p.2 hp] at this
    funext i
    show rdw _ _ _ = _
    rw [rdw_cons]
    exact congrFun this i

theorem rdw_memOf_nil (ws : List Nat) : thru (memOf ws) [] = memOf ws :=
  rdw_memOf ws [] (by simp)

end Varint.Bridge.Packed

namespace Varint.Bridge.External
open Varint.Gen.C Varint.Bridge

/-- what a store list does: indices all below `bs.length`, each exactly once, and the bytes left are `bs` -/
def Writes (stores : List (Nat × Nat)) (bs : List Nat) : Prop :=
  applyStores (List.replicate bs.length 0) stores = bs ∧ stores.length = bs.length ∧
  (∀ p ∈ stores, p.1 < bs.length) ∧ (stores.map Prod.fst).Nodup

theorem writes_map (f : Nat → Nat) {idx : List Nat} {n : Nat} (h : idx.Perm (List.range n)) :
    Writes (idx.map fun i => (i, f i)) ((List.range n).map f) := by
  have hlen : ((List.range n).map f).length = n := by simp
  unfold Writes
  rw [hlen]
  refine ⟨applyStores_map_perm f h _ List.length_replicate,
    by rw [List.length_map, h.length_eq, List.length_range], ?_, ?_⟩
  · intro p hp
    obtain ⟨i, hi, rfl⟩ := List.mem_map.mp hp
    exact List.mem_range.mp (h.mem_iff.mp hi)
  · rw [List.map_map, show (Prod.fst ∘ fun i => (i, f i)) = id from rfl, List.map_id]
    exact h.nodup_iff.mpr List.nodup_range

end Varint.Bridge.External

namespace Varint.Bridge.Delta
open Varint.Gen.C Varint.Bridge Varint.Bridge.External

theorem writes_length {st : List (Nat × Nat)} {bs : List Nat} (h : Writes st bs) : st.length = bs.length := h.2.1

/-- two memory effects one after the other, the second at the offset where the first ends -/
theorem writes_append (s1 s2 : List (Nat × Nat)) (b1 b2 : List Nat) (h1 : Writes s1 b1) (h2 : Writes s2 b2) :
    Writes (s1 ++ shiftW b1.length s2) (b1 ++ b2) := by
  obtain ⟨a1, a2, a3, a4⟩ := h1
  obtain ⟨c1, c2, c3, c4⟩ := h2
  refine ⟨?_, ?_, ?_, ?_⟩
  · rw [List.length_append, ← List.replicate_append_replicate, applyStores_append,
      applyStores_append_left _ _ s1 (by simpa using a3), a1]
    have := applyStores_append_right b1 (List.replicate b2.length 0) s2
    rw [this, c1]
  · simp [shiftW, a2, c2]
  · intro p hp
    rcases List.mem_append.1 hp with h | h
    · have := a3 p h; simp; omega
    · simp only [shiftW, List.mem_map] at h
      obtain ⟨q, hq, rfl⟩ := h
      have := c3 q hq; simp; omega
  · rw [List.map_append, List.nodup_append]
    refine ⟨a4, ?_, ?_⟩
    · simp only [shiftW, List.map_map]
      have hinj : (Prod.fst ∘ fun p : Nat × Nat => (b1.length + p.1, p.2)) = (fun n => b1.length + n) ∘ Prod.fst := rfl
      rw [hinj, ← List.map_map]
      exact List.Pairwise.map _ (fun a b (hab : a ≠ b) => by omega) c4
    · intro x hx y hy
      simp only [List.mem_map] at hx hy
      obtain ⟨p, hp, rfl⟩ := hx
      obtain ⟨q, hq, rfl⟩ := hy
      simp only [shiftW, List.mem_map] at hq
      obtain ⟨r, hr, rfl⟩ := hq
      have := a3 p hp
      simp; omega

end Varint.Bridge.Delta

namespace Varint.Bridge.Split
open Varint.Gen.C Varint.Bridge Varint.Bridge.External

/-- a type byte at index 0 followed by a callee's stores shifted by one -/
theorem writes_cons (t : Nat) (st : List (Nat × Nat)) (bs : List Nat) (h : Writes st bs) :
    Writes ((0, t) :: shiftW 1 st) (t :: bs) :=
  Delta.writes_append [(0, t)] st [t] bs ⟨rfl, rfl, by simp, by simp⟩ h

theorem writes_storesFrom (bs : List Nat) : Writes (storesFrom 0 bs) bs := by
  induction bs with
  | nil => exact ⟨rfl, rfl, by simp, by simp⟩
  | cons b bs ih =>
    rw [storesFrom_cons, ← shiftW_storesFrom 1 0 bs]
    exact writes_cons b _ _ ih

end Varint.Bridge.Split
