import Varint.Gen.CDictH
import Varint.Bridge.Loop
/-
  Bridge: `size_mul_overflow` of src/varintDict.c (the guard in front of every allocation size the dictionary decoders
  compute from untrusted counts), translated from the CURRENT source: it reports overflow exactly when the mathematical
  product does not fit 64 bits, and stores the product otherwise.
-/
namespace Varint.Bridge.DictH
open Varint Varint.Gen.C

/-- **`size_mul_overflow(a, b, &r)`** for all 64-bit operands: returns true iff a·b ≥ 2^64; stores a·b mod 2^64 -/
theorem dictMulOverflow_eq (a b : Nat) :
    dictMulOverflow a b = ((if a * b < 2 ^ 64 then 0 else 1), some (a * b % 2 ^ 64)) := by
  unfold dictMulOverflow
  by_cases c : a = 0 ∨ b = 0
  · rw [if_pos c]
    have hz : a * b = 0 := by
      rcases c with rfl | rfl <;> simp
    simp [hz]
  · rw [if_neg c]
    have ha0 : 0 < a := by omega
    by_cases hlt : a * b < 2 ^ 64
    · have e1 : a * b % 2 ^ 64 = a * b := Nat.mod_eq_of_lt hlt
      have e2 : a * b / a = b := Nat.mul_div_cancel_left b ha0
      simp [hlt, e1, e2]
    · have hx : a * b % 2 ^ 64 < a * b := by
        have := Nat.mod_lt (a * b) (show 0 < 2 ^ 64 by omega)
        omega
      have hne : a * b % 2 ^ 64 / a ≠ b := by
        have := Nat.div_lt_of_lt_mul hx
        omega
      simp [hne, hlt]

end Varint.Bridge.DictH
