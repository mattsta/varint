import Varint.Bridge.SplitArms
/-
  Bridge: the statement macros of src/varintSplitFull16.h (Length_, Put_, GetLen_, GetLenQuick_, Get_), expanded by clang
  inside the wrapper functions of harness/vw_split.c and translated by tools/c2lean2.py from the CURRENT headers, equal the
  model Varint.Split.S16.* for every 64-bit value / every byte buffer the model reads inside of.
-/
namespace Varint.Bridge.Split16
open Varint Varint.Gen.C Varint.Bridge Varint.Bridge.External Varint.Bridge.Split
open Varint.Bridge.Tagged (bufOf)

/-- the length both macros compute from the width loop's count: at least four payload bytes -/
theorem lenC_eq (v : Nat) (hv : v < 2 ^ 64) :
    (if extLen (v - 1077952509) ≤ 4 then 5 else (1 + (extLen (v - 1077952509))) % 2 ^ 32 % 2 ^ 8)
      = Split.lenVar 1077952509 4 v := by
  have h8 := extLen_le_8 (show v - 1077952509 < 2 ^ 64 by omega)
  have h1 := extLen_pos (v - 1077952509)
  rw [Split.lenVar_eq]
  unfold Split.varW
  repeat' split
  all_goals omega

/-- **`varintSplitFull16Length_`** for every 64-bit value, every fuel ≥ 8 -/
theorem split16Length_eq (v fuel : Nat) (hv : v < 2 ^ 64) (hf : 8 ≤ fuel) :
    split16Length fuel v = some (Split.S16.len v) := by
  unfold split16Length Split.S16.len
  simp only []
  split
  · rfl
  split
  · rfl
  split
  · rfl
  · have hu : (v + 2 ^ 64 - 1077952509) % 2 ^ 64 = v - 1077952509 := by omega
    have h8 := extLen_le_8 (show v - 1077952509 < 2 ^ 64 by omega)
    rw [hu, width_loop_one split16Length_loop1 (fun _ _ _ => rfl) fuel _ (by omega) (by omega)]
    simp only [lenC_eq v hv]

/-- **`varintSplitFull16Put_(dst, len, v)`** for every 64-bit value and every fuel ≥ 8 -/
theorem split16Put_eq (v fuel : Nat) (hv : v < 2 ^ 64) (hf : 8 ≤ fuel) :
    ∃ stores, split16Put fuel v = some (Split.S16.len v, stores) ∧ Writes stores (Split.S16.enc v) := by
  unfold split16Put Split.S16.len Split.S16.enc
  simp only []
  by_cases c1 : v ≤ 16383
  · rw [if_pos c1, if_pos c1, if_pos c1]
    exact ⟨_, rfl, putLevel1_writes 0 0 v v rfl rfl (by omega)⟩
  rw [if_neg c1, if_neg c1, if_neg c1]
  by_cases c2 : v ≤ 4210686
  · rw [if_pos c2, if_pos c2, if_pos c2]
    exact ⟨_, rfl, putLevel2_writes 64 16383 v _ (by omega) rfl (by omega)⟩
  rw [if_neg c2, if_neg c2, if_neg c2]
  by_cases c3 : v ≤ 1077952509
  · rw [if_pos c3, if_pos c3, if_pos c3]
    exact ⟨_, rfl, putLevel3_writes 128 4210686 v _ (by omega) rfl (by omega)⟩
  rw [if_neg c3, if_neg c3, if_neg c3]
  have hu : (v + 2 ^ 64 - 1077952509) % 2 ^ 64 = v - 1077952509 := by omega
  have h8 := extLen_le_8 (show v - 1077952509 < 2 ^ 64 by omega)
  obtain ⟨hw1, hw8, _⟩ := Split.varW_bounds 1077952509 4 v hv (by omega)
  rw [hu, width_loop_one split16Put_loop1 (fun _ _ _ => rfl) fuel _ (by omega) (by omega)]
  simp only [lenC_eq v hv, Split.lenVar_eq, Split.encVar_eq]
  generalize Split.varW 1077952509 4 v = w at *
  have ew := width_of_len w (by omega)
  simp only [ew]
  rw [tag_or 192 w rfl (by omega) (by omega)]
  exact ⟨_, rfl, putMedium_writes (192 + w) (v - 1077952509) w (by omega) hw8⟩

/-- **`varintSplitFull16GetLen_`** and **`GetLenQuick_`** on the type byte -/
theorem split16GetLen_eq (p : Nat → Nat) (h0 : p 0 < 256) :
    split16GetLen p = Split.S16.getLen (p 0) ∧ split16GetLenQuick p = Split.S16.getLenQuick (p 0) := by
  unfold split16GetLen split16GetLenQuick Split.S16.getLen Split.S16.getLenQuick
  simp only []
  generalize p 0 = b at *
  have e := len_of_width (b % 16) (by omega)
  constructor
  · rw [switch4 b h0, e]
  · simp only [tag192_iff b h0]
    split
    · omega
    · omega

/-- **`varintSplitFull16Get_(p, len, v)`** on a buffer holding `bs`: whenever the model reads inside `bs` and the var
    byte announces a width an encoder produces (0..8) the C returns the model's (length, value) -/
theorem split16Get_eq (bs : List Nat) (hb : ∀ b ∈ bs, b < 256) (val n : Nat)
    (hw : ∀ b0 rest, bs = b0 :: rest → 192 ≤ b0 → b0 % 16 ≤ 8)
    (h : Split.S16.dec bs = some (val, n)) :
    split16Get (bufOf bs) = (n, some val) := by
  cases bs with
  | nil => simp [Split.S16.dec] at h
  | cons b0 rest =>
    have h0 : b0 < 256 := hb b0 (List.mem_cons_self ..)
    unfold split16Get
    simp only [show bufOf (b0 :: rest) 0 = b0 from rfl]
    rw [switch4 b0 h0]
    have ha : (((b0 % 64 : Nat) : Int) % (2 ^ 64 : Int)).toNat = b0 % 64 := by omega
    simp only [ha]
    by_cases c1 : b0 < 64
    · rw [if_pos c1]
      rw [Split.S16.dec, if_pos c1] at h
      obtain ⟨hk, hn, hv⟩ := Split.decLevel_some h
      have hlt : b0 % 64 * 256 ^ 1 + ofBe (rest.take 1) < 2 ^ 64 := by
        have := ofBe_take_lt (fun x hx => hb x (List.mem_cons_of_mem _ hx)) hk
        omega
      rw [Nat.add_zero, Nat.mod_eq_of_lt hlt] at hv
      rw [getLevel1_eq b0 rest hb _ (by omega) hk, hn, hv]
    rw [if_neg c1]
    by_cases c2 : b0 < 128
    · rw [if_pos c2]
      rw [Split.S16.dec, if_neg c1, if_pos c2] at h
      obtain ⟨hk, hn, hv⟩ := Split.decLevel_some h
      rw [getLevel2_eq b0 rest hb _ (by omega) hk, hn, hv]
    rw [if_neg c2]
    by_cases c3 : b0 < 192
    · rw [if_pos c3]
      rw [Split.S16.dec, if_neg c1, if_neg c2, if_pos c3] at h
      obtain ⟨hk, hn, hv⟩ := Split.decLevel_some h
      rw [getLevel3_eq b0 rest hb _ (by omega) hk, hn, hv]
    · rw [if_neg c3]
      rw [Split.S16.dec, if_neg c1, if_neg c2, if_neg c3] at h
      obtain ⟨hk, hn, hv⟩ := Split.decVar_some h
      have hw8 := hw b0 rest rfl (by omega)
      have en := len_of_width (b0 % 16) (by omega)
      have ew := width_of_len (b0 % 16) (by omega)
      simp only [en, ew]
      rw [getMedium_eq b0 rest hb _ hw8 hk, hn, hv]

end Varint.Bridge.Split16
