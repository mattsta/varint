import Varint.Bridge.SplitArms
/-
  Bridge: the statement macros of src/varintSplitFull.h and src/varintSplitFullNoZero.h (Length_, Put_, GetLen_,
  GetLenQuick_, Get_), expanded by clang inside the wrapper functions of harness/vw_split.c and translated by
  tools/c2lean2.py from the CURRENT headers, equal the models Varint.Split.F.* / Varint.Split.NZ.* for every 64-bit value
  (NoZero: every value ≥ 1) / every byte buffer the model reads inside of.
-/
namespace Varint.Bridge.SplitFull
open Varint Varint.Gen.C Varint.Bridge Varint.Bridge.External Varint.Bridge.Split
open Varint.Bridge.Tagged (bufOf bufOf_lt)

/-- the length the macros of both headers compute from the width loop's count: at least two payload bytes -/
theorem lenC_eq (sub v : Nat) (hv : v < 2 ^ 64) :
    (if extLen (v - sub) = 1 then 3 else (1 + (extLen (v - sub))) % 2 ^ 32 % 2 ^ 8)
      = Split.lenVar sub 2 v := by
  have h8 := extLen_le_8 (show v - sub < 2 ^ 64 by omega)
  have h1 := extLen_pos (v - sub)
  rw [Split.lenVar_eq]
  unfold Split.varW
  repeat' split
  all_goals omega

/-- **`GetLen_` and `GetLenQuick_`** of both headers on the type byte, in the models' terms -/
theorem getLen_arms (b : Nat) (hb : b < 256) :
    (if (((b &&& 192 : Nat) : Int) = (0 : Int)) then 1 else if (((b &&& 192 : Nat) : Int) = (64 : Int)) then 2
      else if (((b &&& 192 : Nat) : Int) = (128 : Int)) then 3
      else if (((b &&& 192 : Nat) : Int) = (192 : Int)) then
        ((1 + (((b % 16 : Nat) : Int) % (2 ^ 32 : Int)).toNat) % 2 ^ 32) % 2 ^ 8 else 0)
      = (if b < 64 then 1 else if b < 128 then 2 else if b < 192 then 3 else 1 + b % 16) ∧
    (((1 + (if (((b &&& 192 : Nat) : Int) = (192 : Int)) then (((b % 16 : Nat) : Int) % (2 ^ 32 : Int)).toNat
        else ((((b : Nat) : Int) / 2 ^ 6) % (2 ^ 32 : Int)).toNat)) % 2 ^ 32) % 2 ^ 8)
      = 1 + (if 192 ≤ b then b % 16 else b / 64) := by
  have e := len_of_width (b % 16) (by omega)
  constructor
  · rw [switch4 b hb, e]
  · simp only [tag192_iff b hb]
    split
    · omega
    · omega

/-- **`F` length macro** for every 64-bit value, every fuel ≥ 8 -/
theorem splitFullLength_eq (v fuel : Nat) (hv : v < 2 ^ 64) (hf : 8 ≤ fuel) :
    splitFullLength fuel v = some (Split.F.len v) := by
  unfold splitFullLength Split.F.len
  simp only []
  split
  · rfl
  split
  · rfl
  split
  · rfl
  · have hu : (v + 2 ^ 64 - 4210749) % 2 ^ 64 = v - 4210749 := by omega
    have h8 := extLen_le_8 (show v - 4210749 < 2 ^ 64 by omega)
    rw [hu, width_loop_one splitFullLength_loop1 (fun _ _ _ => rfl) fuel _ (by omega) (by omega)]
    simp only [lenC_eq 4210749 v hv]

/-- **`F` put macro** for every 64-bit value and every fuel ≥ 8 -/
theorem splitFullPut_eq (v fuel : Nat) (hv : v < 2 ^ 64) (hf : 8 ≤ fuel) :
    ∃ stores, splitFullPut fuel v = some (Split.F.len v, stores) ∧ Writes stores (Split.F.enc v) := by
  unfold splitFullPut Split.F.len Split.F.enc
  simp only []
  by_cases c1 : v ≤ 63
  · rw [if_pos c1, if_pos c1, if_pos c1]
    exact ⟨_, rfl, putLevel0_writes 0 v v rfl (by omega)⟩
  rw [if_neg c1, if_neg c1, if_neg c1]
  by_cases c2 : v ≤ 16446
  · rw [if_pos c2, if_pos c2, if_pos c2]
    exact ⟨_, rfl, putLevel1_writes 64 63 v _ (by omega) rfl (by omega)⟩
  rw [if_neg c2, if_neg c2, if_neg c2]
  by_cases c3 : v ≤ 4210749
  · rw [if_pos c3, if_pos c3, if_pos c3]
    exact ⟨_, rfl, putLevel2_writes 128 16446 v _ (by omega) rfl (by omega)⟩
  rw [if_neg c3, if_neg c3, if_neg c3]
  have hu : (v + 2 ^ 64 - 4210749) % 2 ^ 64 = v - 4210749 := by omega
  have h8 := extLen_le_8 (show v - 4210749 < 2 ^ 64 by omega)
  obtain ⟨hw1, hw8, _⟩ := Split.varW_bounds 4210749 2 v hv (by omega)
  rw [hu, width_loop_one splitFullPut_loop1 (fun _ _ _ => rfl) fuel _ (by omega) (by omega)]
  simp only [lenC_eq 4210749 v hv, Split.lenVar_eq, Split.encVar_eq]
  generalize Split.varW 4210749 2 v = w at *
  have ew := width_of_len w (by omega)
  simp only [ew]
  rw [tag_or 192 w rfl (by omega) (by omega)]
  exact ⟨_, rfl, putMedium_writes (192 + w) (v - 4210749) w (by omega) hw8⟩

/-- **`F` GetLen_ and GetLenQuick_** on the type byte -/
theorem splitFullGetLen_eq (p : Nat → Nat) (h0 : p 0 < 256) :
    splitFullGetLen p = Split.F.getLen (p 0) ∧ splitFullGetLenQuick p = Split.F.getLenQuick (p 0) :=
  getLen_arms (p 0) h0

/-- **`F` Get_ macro** on a buffer holding `bs`: whenever the model reads inside `bs` and the var byte announces a
    width an encoder produces (0..8) the C returns the model's (length, value) -/
theorem splitFullGet_eq (bs : List Nat) (hb : ∀ b ∈ bs, b < 256) (val n : Nat)
    (hw : ∀ b0 rest, bs = b0 :: rest → 192 ≤ b0 → b0 % 16 ≤ 8)
    (h : Split.F.dec bs = some (val, n)) :
    splitFullGet (bufOf bs) = (n, some val) := by
  cases bs with
  | nil => simp [Split.F.dec] at h
  | cons b0 rest =>
    have h0 : b0 < 256 := hb b0 (List.mem_cons_self ..)
    unfold splitFullGet
    simp only [show bufOf (b0 :: rest) 0 = b0 from rfl]
    rw [switch4 b0 h0]
    have ha : (((b0 % 64 : Nat) : Int) % (2 ^ 64 : Int)).toNat = b0 % 64 := by omega
    simp only [ha]
    by_cases c1 : b0 < 64
    · rw [if_pos c1]
      rw [Split.F.dec, if_pos c1] at h
      obtain ⟨_, hn, hv⟩ := Split.decLevel_some h
      rw [getLevel0_eq, Nat.add_zero, Nat.mod_eq_of_lt (show b0 % 64 < 2 ^ 64 by omega)] at hv
      rw [hn, hv]
    rw [if_neg c1]
    by_cases c2 : b0 < 128
    · rw [if_pos c2]
      rw [Split.F.dec, if_neg c1, if_pos c2] at h
      obtain ⟨hk, hn, hv⟩ := Split.decLevel_some h
      rw [getLevel1_eq b0 rest hb _ (by omega) hk, hn, hv]
    rw [if_neg c2]
    by_cases c3 : b0 < 192
    · rw [if_pos c3]
      rw [Split.F.dec, if_neg c1, if_neg c2, if_pos c3] at h
      obtain ⟨hk, hn, hv⟩ := Split.decLevel_some h
      rw [getLevel2_eq b0 rest hb _ (by omega) hk, hn, hv]
    · rw [if_neg c3]
      rw [Split.F.dec, if_neg c1, if_neg c2, if_neg c3] at h
      obtain ⟨hk, hn, hv⟩ := Split.decVar_some h
      have hw8 := hw b0 rest rfl (by omega)
      have en := len_of_width (b0 % 16) (by omega)
      have ew := width_of_len (b0 % 16) (by omega)
      simp only [en, ew]
      rw [getMedium_eq b0 rest hb _ hw8 hk, hn, hv]

/-- `|` on non-negative ints below 2^31 (the NoZero macro combines the promoted bytes without a cast to uint64_t) -/
theorem ibit2_or (a b : Nat) (ha : a < 2 ^ 31) (hb : b < 2 ^ 31) :
    ibit2 32 (· ||| ·) ((a : Nat) : Int) ((b : Nat) : Int) = (((a ||| b) : Nat) : Int) := by
  have e1 : (((a : Nat) : Int) % (2 ^ 32 : Int)).toNat = a := by omega
  have e2 : (((b : Nat) : Int) % (2 ^ 32 : Int)).toNat = b := by omega
  have hor : a ||| b < 2 ^ 31 := Nat.or_lt_two_pow ha hb
  unfold ibit2
  rw [e1, e2]
  exact sx_of_lt 32 (a ||| b) (by omega)

/-- the NoZero load of a level with one extra byte, in the `uint64_t` form of the other headers -/
theorem nzLevel1 (a b1 : Nat) (ha : a < 64) (h1 : b1 < 256) :
    ((ibit2 32 (· ||| ·) (((a : Nat) : Int) * 2 ^ 8) ((b1 : Nat) : Int)) % (2 ^ 64 : Int)).toNat
      = (a * 2 ^ 8 % 2 ^ 64) ||| b1 := by
  have e : ((a : Nat) : Int) * 2 ^ 8 = ((a * 2 ^ 8 : Nat) : Int) := by omega
  have hor : a * 2 ^ 8 ||| b1 < 2 ^ 31 := Nat.or_lt_two_pow (by omega) (by omega)
  rw [e, ibit2_or _ _ (by omega) (by omega), Nat.mod_eq_of_lt (show a * 2 ^ 8 < 2 ^ 64 by omega)]
  omega

/-- the NoZero load of a level with two extra bytes, likewise -/
theorem nzLevel2 (a b1 b2 : Nat) (ha : a < 64) (h1 : b1 < 256) (h2 : b2 < 256) :
    ((ibit2 32 (· ||| ·) (ibit2 32 (· ||| ·) (((a : Nat) : Int) * 2 ^ 16) (((b1 : Nat) : Int) * 2 ^ 8)) ((b2 : Nat) : Int)) %
      (2 ^ 64 : Int)).toNat = ((a * 2 ^ 16 % 2 ^ 64) ||| (b1 * 2 ^ 8 % 2 ^ 64)) ||| b2 := by
  have e1 : ((a : Nat) : Int) * 2 ^ 16 = ((a * 2 ^ 16 : Nat) : Int) := by omega
  have e2 : ((b1 : Nat) : Int) * 2 ^ 8 = ((b1 * 2 ^ 8 : Nat) : Int) := by omega
  have hor1 : a * 2 ^ 16 ||| b1 * 2 ^ 8 < 2 ^ 31 := Nat.or_lt_two_pow (by omega) (by omega)
  have hor2 : (a * 2 ^ 16 ||| b1 * 2 ^ 8) ||| b2 < 2 ^ 31 := Nat.or_lt_two_pow hor1 (by omega)
  rw [e1, e2, ibit2_or _ _ (by omega) (by omega), ibit2_or _ _ hor1 (by omega),
    Nat.mod_eq_of_lt (show a * 2 ^ 16 < 2 ^ 64 by omega), Nat.mod_eq_of_lt (show b1 * 2 ^ 8 < 2 ^ 64 by omega)]
  omega

/-- **`NZ` length macro** for every 64-bit value, every fuel ≥ 8 -/
theorem splitNZLength_eq (v fuel : Nat) (hv : v < 2 ^ 64) (hf : 8 ≤ fuel) :
    splitNZLength fuel v = some (Split.NZ.len v) := by
  unfold splitNZLength Split.NZ.len
  simp only []
  split
  · rfl
  split
  · rfl
  split
  · rfl
  · have hu : (v + 2 ^ 64 - 4210750) % 2 ^ 64 = v - 4210750 := by omega
    have h8 := extLen_le_8 (show v - 4210750 < 2 ^ 64 by omega)
    rw [hu, width_loop_one splitNZLength_loop1 (fun _ _ _ => rfl) fuel _ (by omega) (by omega)]
    simp only [lenC_eq 4210750 v hv]

/-- **`NZ` put macro** for every 64-bit value ≥ 1 and every fuel ≥ 8 -/
theorem splitNZPut_eq (v fuel : Nat) (hv : v < 2 ^ 64) (h1v : 1 ≤ v) (hf : 8 ≤ fuel) :
    ∃ stores, splitNZPut fuel v = some (Split.NZ.len v, stores) ∧ Writes stores (Split.NZ.enc v) := by
  unfold splitNZPut Split.NZ.len Split.NZ.enc
  simp only []
  by_cases c1 : v ≤ 64
  · rw [if_pos c1, if_pos c1, if_pos c1]
    exact ⟨_, rfl, putLevel0_writes 1 v _ (by omega) (by omega)⟩
  rw [if_neg c1, if_neg c1, if_neg c1]
  by_cases c2 : v ≤ 16447
  · rw [if_pos c2, if_pos c2, if_pos c2]
    exact ⟨_, rfl, putLevel1_writes 64 64 v _ (by omega) rfl (by omega)⟩
  rw [if_neg c2, if_neg c2, if_neg c2]
  by_cases c3 : v ≤ 4210750
  · rw [if_pos c3, if_pos c3, if_pos c3]
    exact ⟨_, rfl, putLevel2_writes 128 16447 v _ (by omega) rfl (by omega)⟩
  rw [if_neg c3, if_neg c3, if_neg c3]
  have hu : (v + 2 ^ 64 - 4210750) % 2 ^ 64 = v - 4210750 := by omega
  have h8 := extLen_le_8 (show v - 4210750 < 2 ^ 64 by omega)
  obtain ⟨hw1, hw8, _⟩ := Split.varW_bounds 4210750 2 v hv (by omega)
  rw [hu, width_loop_one splitNZPut_loop1 (fun _ _ _ => rfl) fuel _ (by omega) (by omega)]
  simp only [lenC_eq 4210750 v hv, Split.lenVar_eq, Split.encVar_eq]
  generalize Split.varW 4210750 2 v = w at *
  have ew := width_of_len w (by omega)
  simp only [ew]
  rw [tag_or 192 w rfl (by omega) (by omega)]
  exact ⟨_, rfl, putMedium_writes (192 + w) (v - 4210750) w (by omega) hw8⟩

/-- **`NZ` GetLen_ and GetLenQuick_** on the type byte -/
theorem splitNZGetLen_eq (p : Nat → Nat) (h0 : p 0 < 256) :
    splitNZGetLen p = Split.NZ.getLen (p 0) ∧ splitNZGetLenQuick p = Split.NZ.getLenQuick (p 0) :=
  getLen_arms (p 0) h0

/-- **`NZ` Get_ macro** on a buffer holding `bs`: whenever the model reads inside `bs` and the var byte announces a
    width an encoder produces (0..8) the C returns the model's (length, value) -/
theorem splitNZGet_eq (bs : List Nat) (hb : ∀ b ∈ bs, b < 256) (val n : Nat)
    (hw : ∀ b0 rest, bs = b0 :: rest → 192 ≤ b0 → b0 % 16 ≤ 8)
    (h : Split.NZ.dec bs = some (val, n)) :
    splitNZGet (bufOf bs) = (n, some val) := by
  cases bs with
  | nil => simp [Split.NZ.dec] at h
  | cons b0 rest =>
    have h0 : b0 < 256 := hb b0 (List.mem_cons_self ..)
    unfold splitNZGet
    simp only [show bufOf (b0 :: rest) 0 = b0 from rfl]
    rw [switch4 b0 h0]
    have ha : (((b0 % 64 : Nat) : Int) % (2 ^ 64 : Int)).toNat = b0 % 64 := by omega
    simp only [ha]
    by_cases c1 : b0 < 64
    · rw [if_pos c1]
      rw [Split.NZ.dec, if_pos c1] at h
      obtain ⟨_, hn, hv⟩ := Split.decLevel_some h
      rw [getLevel0_eq] at hv
      rw [hn, hv]
    rw [if_neg c1]
    by_cases c2 : b0 < 128
    · rw [if_pos c2]
      rw [Split.NZ.dec, if_neg c1, if_pos c2] at h
      obtain ⟨hk, hn, hv⟩ := Split.decLevel_some h
      rw [nzLevel1 _ _ (by omega) (bufOf_lt _ hb 1), getLevel1_eq b0 rest hb _ (by omega) hk, hn, hv]
    rw [if_neg c2]
    by_cases c3 : b0 < 192
    · rw [if_pos c3]
      rw [Split.NZ.dec, if_neg c1, if_neg c2, if_pos c3] at h
      obtain ⟨hk, hn, hv⟩ := Split.decLevel_some h
      rw [nzLevel2 _ _ _ (by omega) (bufOf_lt _ hb 1) (bufOf_lt _ hb 2), getLevel2_eq b0 rest hb _ (by omega) hk, hn, hv]
    · rw [if_neg c3]
      rw [Split.NZ.dec, if_neg c1, if_neg c2, if_neg c3] at h
      obtain ⟨hk, hn, hv⟩ := Split.decVar_some h
      have hw8 := hw b0 rest rfl (by omega)
      have en := len_of_width (b0 % 16) (by omega)
      have ew := width_of_len (b0 % 16) (by omega)
      simp only [en, ew]
      rw [getMedium_eq b0 rest hb _ hw8 hk, hn, hv]

end Varint.Bridge.SplitFull
