import Varint.Gen.CExtBE
import Varint.Model.External
import Varint.Lemmas.Bytes
import Varint.Bridge.Loop
import Varint.Bridge.External
/-
  Bridge: src/varintExternalBigEndian.c — varintExternalBigEndianPut (width loop + per-width reversed copy, the 8-byte
  arm through `__builtin_bswap64`), varintExternalBigEndianPutFixedWidth, varintExternalBigEndianGet, as translated by
  tools/c2lean2.py from the CURRENT source (little-endian host) — equal the model Varint.ExternalBE.* for every 64-bit
  value and every width 1..8.
-/
namespace Varint.Bridge.ExtBE
open Varint Varint.Gen.C Varint.Bridge Varint.Bridge.External

theorem be1 (v : Nat) : beBytes 1 v = [v / 256 ^ 0 % 256] := rfl
theorem be2 (v : Nat) : beBytes 2 v = [v / 256 ^ 1 % 256, v / 256 ^ 0 % 256] := rfl
theorem be3 (v : Nat) : beBytes 3 v = [v / 256 ^ 2 % 256, v / 256 ^ 1 % 256, v / 256 ^ 0 % 256] := rfl
theorem be4 (v : Nat) : beBytes 4 v = [v / 256 ^ 3 % 256, v / 256 ^ 2 % 256, v / 256 ^ 1 % 256, v / 256 ^ 0 % 256] := rfl
theorem be5 (v : Nat) : beBytes 5 v = [v / 256 ^ 4 % 256, v / 256 ^ 3 % 256, v / 256 ^ 2 % 256, v / 256 ^ 1 % 256, v / 256 ^ 0 % 256] := rfl
theorem be6 (v : Nat) : beBytes 6 v = [v / 256 ^ 5 % 256, v / 256 ^ 4 % 256, v / 256 ^ 3 % 256, v / 256 ^ 2 % 256, v / 256 ^ 1 % 256, v / 256 ^ 0 % 256] := rfl
theorem be7 (v : Nat) : beBytes 7 v = [v / 256 ^ 6 % 256, v / 256 ^ 5 % 256, v / 256 ^ 4 % 256, v / 256 ^ 3 % 256, v / 256 ^ 2 % 256, v / 256 ^ 1 % 256, v / 256 ^ 0 % 256] := rfl
theorem be8 (v : Nat) : beBytes 8 v = [v / 256 ^ 7 % 256, v / 256 ^ 6 % 256, v / 256 ^ 5 % 256, v / 256 ^ 4 % 256, v / 256 ^ 3 % 256, v / 256 ^ 2 % 256, v / 256 ^ 1 % 256, v / 256 ^ 0 % 256] := rfl

/-- `__builtin_bswap64`: the little-endian bytes of the argument, read big-endian -/
theorem bswap64_eq (x : Nat) : bswap64 x = ofBe (leBytes 8 x) := by
  rw [leBytes_eq_map]
  simp only [bswap64, List.range, List.range.loop, List.map, ofBe, List.length, Nat.reducePow, Nat.reduceMul,
    Nat.reduceAdd]
  omega

/-- what the 8-byte arm stores: the low 8 bytes of `v`, gathered into a word, swapped -/
def swapped (v : Nat) : Nat := bswap64 (setBytes 0 ((List.range 8).map fun j => (j, v / 2 ^ (8 * j) % 256)))

theorem leBytes_swapped (v : Nat) : leBytes 8 (swapped v) = beBytes 8 v := by
  have hle := leBytes_ofLe (leBytes 8 v) (leBytes_lt 8 v)
  have hbe := leBytes_ofLe (beBytes 8 v) (beBytes_lt 8 v)
  rw [leBytes_length] at hle
  rw [beBytes_length] at hbe
  unfold swapped
  rw [setBytes_map _ (List.Perm.refl _) (fun i _ => Nat.mod_lt _ (by omega)), ← leBytes_eq_map, bswap64_eq, hle,
    ← List.reverse_reverse (leBytes 8 v), leBytes_reverse, ofBe_reverse, hbe]

/-- the stores of the reversed copy of width `w`: byte `w-1-i` of `v` goes to index `i`; the 8-byte arm stores the
    swapped word little-endian -/
def beStores (v w : Nat) : List (Nat × Nat) :=
  if w = 8 then leStores (swapped v) 8 else (copyOrder w).map fun i => (i, v / 2 ^ (8 * (w - 1 - i)) % 256)

theorem writes_beStores (v w : Nat) : Writes (beStores v w) (beBytes w v) := by
  unfold beStores
  split
  · subst w
    rw [← leBytes_swapped]
    exact writes_leStores _ 8
  · rw [beBytes_eq_map]
    exact writes_map _ (copyOrder_perm w)

theorem extbePutFixedWidth_stores (v w : Nat) (h1 : 1 ≤ w) (h8 : w ≤ 8) : extbePutFixedWidth v w = beStores v w := by
  have hw : w = 1 ∨ w = 2 ∨ w = 3 ∨ w = 4 ∨ w = 5 ∨ w = 6 ∨ w = 7 ∨ w = 8 := by omega
  rcases hw with rfl | rfl | rfl | rfl | rfl | rfl | rfl | rfl <;>
    simp only [extbePutFixedWidth, extbePutFixedWidth_arm1, extbePutFixedWidth_arm2, extbePutFixedWidth_arm3,
      extbePutFixedWidth_arm4, extbePutFixedWidth_arm5, extbePutFixedWidth_arm6, extbePutFixedWidth_arm7,
      extbePutFixedWidth_arm8, beStores, leStores, swapped, copyOrder, Nat.reduceEqDiff, if_true, if_false,
      List.range, List.range.loop, List.reverse, List.reverseAux, List.map, setBytes, Nat.reduceSub]

/-- **`varintExternalBigEndianPutFixedWidth(p, v, w)`**, 1 ≤ w ≤ 8: the bytes left at p[0 … w-1] are the big-endian
    low `w` bytes of `v`, every index below `w` stored exactly once and nothing at or beyond `w` -/
theorem extbePutFixedWidth_eq (v w : Nat) (h1 : 1 ≤ w) (h8 : w ≤ 8) :
    Writes (extbePutFixedWidth v w) (ExternalBE.encFixed v w) := by
  rw [extbePutFixedWidth_stores v w h1 h8]
  exact writes_beStores v w

/-- `_varintExternalBigEndianCopyUsedBytesLittleEndian`: the minimal width, found by the loop, and the reversed copy
    of that width -/
theorem extbeCopyUsed_eq (v fuel : Nat) (hv : v < 2 ^ 64) (hf : 8 ≤ fuel) :
    extbeCopyUsed fuel v = some (extLen v, beStores v (extLen v)) := by
  have h8 := extLen_le_8 hv
  have h1 := extLen_pos v
  unfold extbeCopyUsed
  simp only []
  simp only [width_loop_one extbeCopyUsed_loop1 (fun _ _ _ => rfl) fuel v (by omega) (by omega)]
  generalize extLen v = w at h1 h8
  have hw : w = 1 ∨ w = 2 ∨ w = 3 ∨ w = 4 ∨ w = 5 ∨ w = 6 ∨ w = 7 ∨ w = 8 := by omega
  rcases hw with rfl | rfl | rfl | rfl | rfl | rfl | rfl | rfl <;>
    simp only [extbeCopyUsed_arm1, extbeCopyUsed_arm2, extbeCopyUsed_arm3, extbeCopyUsed_arm4, extbeCopyUsed_arm5,
      extbeCopyUsed_arm6, extbeCopyUsed_arm7, extbeCopyUsed_arm8, beStores, leStores, swapped, copyOrder,
      Nat.reduceEqDiff, if_true, if_false, List.range, List.range.loop, List.reverse, List.reverseAux, List.map,
      setBytes, Nat.reduceSub]

/-- **`varintExternalBigEndianPut(p, v)`** for every 64-bit value and every fuel ≥ 8: returns the minimal width and
    leaves the minimal big-endian slice, each byte stored once, nothing beyond the width -/
theorem extbePut_eq (v fuel : Nat) (hv : v < 2 ^ 64) (hf : 8 ≤ fuel) :
    ∃ stores, extbePut fuel v = some (extLen v, stores) ∧ Writes stores (ExternalBE.enc v) := by
  unfold extbePut
  rw [extbeCopyUsed_eq v fuel hv hf]
  exact ⟨_, rfl, writes_beStores v (extLen v)⟩

/-- the reversed load of width `w`: `p i` goes to byte `w-1-i`; the 8-byte arm gathers the bytes in place, swaps the
    word and copies it out -/
theorem extbeLoad_eq (p : Nat → Nat) (w : Nat) (h1 : 1 ≤ w) (h8 : w ≤ 8) :
    extbeLoad p w =
      if w = 8 then setBytes 0 (leStores (bswap64 (setBytes 0 ((List.range 8).map fun i => (i, p i)))) 8)
      else setBytes 0 ((copyOrder w).map fun i => (i, p (w - 1 - i))) := by
  have hw : w = 1 ∨ w = 2 ∨ w = 3 ∨ w = 4 ∨ w = 5 ∨ w = 6 ∨ w = 7 ∨ w = 8 := by omega
  rcases hw with rfl | rfl | rfl | rfl | rfl | rfl | rfl | rfl <;>
    simp only [extbeLoad, extbeLoad_arm1, extbeLoad_arm2, extbeLoad_arm3, extbeLoad_arm4, extbeLoad_arm5,
      extbeLoad_arm6, extbeLoad_arm7, extbeLoad_arm8, leStores, copyOrder, Nat.reduceEqDiff, if_true, if_false,
      List.range, List.range.loop, List.reverse, List.reverseAux, List.map, setBytes, Nat.reduceSub]

/-- **`varintExternalBigEndianGet(p, w)`**, 1 ≤ w ≤ 8, on a buffer of bytes: the big-endian value of p[0 … w-1] -/
theorem extbeGet_eq (p : Nat → Nat) (w : Nat) (h1 : 1 ≤ w) (h8 : w ≤ 8) (hb : ∀ i, i < w → p i < 256) :
    extbeGet p w = ofBe ((List.range w).map p) := by
  unfold extbeGet
  rw [extbeLoad_eq p w h1 h8]
  split
  · subst w
    have hp : ∀ b ∈ (List.range 8).map p, b < 256 := by
      intro b hbm
      obtain ⟨i, hi, rfl⟩ := List.mem_map.mp hbm
      exact hb i (List.mem_range.mp hi)
    have hle := leBytes_ofLe _ hp
    have hlt := ofBe_lt _ hp
    rw [List.length_map, List.length_range] at hle hlt
    rw [setBytes_map p (List.Perm.refl _) hb, bswap64_eq, hle, setBytes_leStores, Nat.mod_eq_of_lt hlt]
  · rw [setBytes_map _ (copyOrder_perm w) (fun i hi => hb _ (by omega)), ofBe_map_range]

end Varint.Bridge.ExtBE
