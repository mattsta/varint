import Varint.Gen.CFOR
import Varint.Model.FOR
import Varint.Lemmas.FOR
import Varint.Bridge.Loop
import Varint.Bridge.Tagged
import Varint.Bridge.Sizes
/-
  Bridge: varintFORComputeWidth and varintFORAnalyze of src/varintFOR.c (the scalar min/max scan), as translated by
  tools/c2lean2.py from the CURRENT source, equal the model Varint.FOR.analyze for every non-empty array.
-/
namespace Varint.Bridge.FOR
open Varint Varint.Gen.C Varint.Bridge

/-- `varintFORComputeWidth(range)` = bytes needed for the range -/
theorem forComputeWidth_eq (r fuel : Nat) (hr : r < 2 ^ 64) (hf : 8 ≤ fuel) :
    forComputeWidth fuel r = some (extLen r) := by
  have h8 := extLen_le_8 hr
  have h1 := extLen_pos r
  unfold forComputeWidth
  simp only []
  simp only [width_loop_one forComputeWidth_loop1 (fun _ _ _ => rfl) fuel r (by omega) (by omega)]

/-- the min/max scan -/
theorem scan_loop (xs : List Nat) (hn : xs.length < 2 ^ 63) :
    ∀ (rest : List Nat) (fuel i mn mx : Nat), xs.drop i = rest → i ≤ xs.length → rest.length + 1 ≤ fuel →
      forAnalyze_loop1 (Bridge.Tagged.bufOf xs) xs.length fuel (i, mn, mx) =
        .done (xs.length, rest.foldl min mn, rest.foldl max mx) := by
  intro rest
  induction rest with
  | nil =>
    intro fuel i mn mx hd hi hf
    have hil : i = xs.length := by
      have := List.drop_eq_nil_iff.1 hd; omega
    subst hil
    obtain ⟨fuel, rfl⟩ : ∃ g, fuel = g + 1 := ⟨fuel - 1, by omega⟩
    unfold forAnalyze_loop1
    simp
  | cons x rest ih =>
    intro fuel i mn mx hd hi hf
    simp only [List.length_cons] at hf
    obtain ⟨fuel, rfl⟩ : ∃ g, fuel = g + 1 := ⟨fuel - 1, by omega⟩
    obtain ⟨hil, hxi, hd', -⟩ := Bridge.Tagged.walk_cons xs i x rest hd
    have hi1 : (i + 1) % 2 ^ 64 = i + 1 := Nat.mod_eq_of_lt (by omega)
    unfold forAnalyze_loop1
    simp only [if_pos hil, hxi, hi1]
    rw [ih fuel (i + 1) _ _ hd' (by omega) (by omega)]
    simp only [List.foldl_cons]
    have e1 : (if x < mn then x else mn) = min mn x := by
      by_cases c : x < mn
      · rw [if_pos c, Nat.min_eq_right (Nat.le_of_lt c)]
      · rw [if_neg c, Nat.min_eq_left (by omega)]
    have e2 : (if x > mx then x else mx) = max mx x := by
      by_cases c : x > mx
      · rw [if_pos c, Nat.max_eq_right (Nat.le_of_lt c)]
      · rw [if_neg c, Nat.max_eq_left (by omega)]
    rw [e1, e2]

/-- **`varintFORAnalyze(values, count, &meta)`** for every non-empty array of 64-bit values (count < 2^56) and every
    fuel ≥ count + 8: the struct receives the true minimum and maximum OF THE WHOLE ARRAY, their difference, the width
    that difference needs, the count and the size `varintFORSize` computes from them -/
theorem forAnalyze_eq (xs : List Nat) (hne : xs ≠ []) (hx : ∀ x ∈ xs, x < 2 ^ 64) (hn : xs.length < 2 ^ 56)
    (fuel : Nat) (hf : xs.length + 8 ≤ fuel) :
    forAnalyze fuel (Bridge.Tagged.bufOf xs) xs.length =
      some (some (FOR.analyze xs).minValue, some (FOR.analyze xs).maxValue, some (FOR.analyze xs).range,
            some (FOR.analyze xs).offsetWidth, some (FOR.analyze xs).count, some (FOR.analyze xs).encodedSize) := by
  cases xs with
  | nil => exact absurd rfl hne
  | cons x0 t =>
    unfold forAnalyze FOR.analyze
    have h0 : Bridge.Tagged.bufOf (x0 :: t) 0 = x0 := rfl
    simp only [h0]
    rw [scan_loop (x0 :: t) (by omega) t fuel 1 x0 x0 (by simp) (by simp) (by simp at hf ⊢; omega)]
    simp only [FOR.minL, FOR.maxL]
    have hmn := (foldl_min_le t x0).1
    have hmx := (foldl_max_ge t x0).1
    have hx0 := hx x0 (by simp)
    have hmx64 : t.foldl max x0 < 2 ^ 64 := foldl_max_lt t x0 _ hx0 (fun y hy => hx y (by simp [hy]))
    have hr : (t.foldl max x0 + 2 ^ 64 - t.foldl min x0) % 2 ^ 64 = t.foldl max x0 - t.foldl min x0 := by omega
    simp only [hr]
    have hr64 : t.foldl max x0 - t.foldl min x0 < 2 ^ 64 := by omega
    rw [forComputeWidth_eq _ fuel hr64 (by omega)]
    simp only []
    rw [Bridge.Sizes.forSize_eq _ _ _ (by omega) hn (extLen_le_8 hr64)]

end Varint.Bridge.FOR
