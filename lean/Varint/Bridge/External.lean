import Varint.Gen.CExternal
import Varint.Model.External
import Varint.Lemmas.Bytes
import Varint.Lemmas.External
import Varint.Lemmas.Add
import Varint.Bridge.Loop
import Varint.Bridge.Mem
import Varint.Bridge.Tagged
import Varint.Bridge.Sizes
/-
  Bridge: src/varintExternal.c — varintExternalPut (width loop + per-width copy), varintExternalPutFixedWidth,
  varintExternalGet, varintExternalAdd_ (`extAdd_eq`), as translated by tools/c2lean2.py from the CURRENT source (little-endian host: `endianIsLittle()`
  is the platform constant 1; the byte views `(uint8_t *)&v` are read and written as the little-endian object
  representation) — equal the model Varint.External.* for every 64-bit value and every width 1..8.
  The stores of the C are listed in program order (the unrolled copies run from the high byte down, the 8-byte one upward: `copyOrder`), so the statements
  are about the memory they leave: `applyStores`, plus "each index below the width exactly once, none beyond".
-/
namespace Varint.Bridge.External
open Varint Varint.Gen.C Varint.Bridge

theorem le1 (v : Nat) : leBytes 1 v = [v % 256] := rfl
theorem le2 (v : Nat) : leBytes 2 v = [v % 256, v / 256 % 256] := rfl
theorem le3 (v : Nat) : leBytes 3 v = [v % 256, v / 256 % 256, v / 256 / 256 % 256] := rfl
theorem le4 (v : Nat) : leBytes 4 v = [v % 256, v / 256 % 256, v / 256 / 256 % 256, v / 256 / 256 / 256 % 256] := rfl
theorem le5 (v : Nat) : leBytes 5 v = [v % 256, v / 256 % 256, v / 256 / 256 % 256, v / 256 / 256 / 256 % 256,
    v / 256 / 256 / 256 / 256 % 256] := rfl
theorem le6 (v : Nat) : leBytes 6 v = [v % 256, v / 256 % 256, v / 256 / 256 % 256, v / 256 / 256 / 256 % 256,
    v / 256 / 256 / 256 / 256 % 256, v / 256 / 256 / 256 / 256 / 256 % 256] := rfl
theorem le7 (v : Nat) : leBytes 7 v = [v % 256, v / 256 % 256, v / 256 / 256 % 256, v / 256 / 256 / 256 % 256,
    v / 256 / 256 / 256 / 256 % 256, v / 256 / 256 / 256 / 256 / 256 % 256,
    v / 256 / 256 / 256 / 256 / 256 / 256 % 256] := rfl
theorem le8 (v : Nat) : leBytes 8 v = [v % 256, v / 256 % 256, v / 256 / 256 % 256, v / 256 / 256 / 256 % 256,
    v / 256 / 256 / 256 / 256 % 256, v / 256 / 256 / 256 / 256 / 256 % 256,
    v / 256 / 256 / 256 / 256 / 256 / 256 % 256, v / 256 / 256 / 256 / 256 / 256 / 256 / 256 % 256] := rfl

/-! ### stores through the byte view `(uint8_t *)&x` -/

/-- the stores `st`, in order, through `(uint8_t *)&x` -/
def setBytes : Nat → List (Nat × Nat) → Nat
  | x, [] => x
  | x, (k, b) :: st => setBytes (setByte x k b) st

/-- a store through `(uint8_t *)&x` replaces one element of the little-endian byte list of `x` -/
theorem setByte_ofLe (ws : List Nat) (hws : ∀ b ∈ ws, b < 256) (k b : Nat) (hk : k < ws.length) :
    setByte (ofLe ws) k b = ofLe (ws.set k b) := by
  induction ws generalizing k with
  | nil => simp at hk
  | cons a ws ih =>
    have ha : a < 256 := hws a (by simp)
    cases k with
    | zero =>
      simp only [setByte, ofLe, List.set_cons_zero, Nat.mul_zero, Nat.pow_zero, Nat.div_one, Nat.mul_one]
      omega
    | succ k =>
      have hrec := ih (fun b hb => hws b (by simp [hb])) k (by simpa using hk)
      simp only [List.set_cons_succ, ofLe, ← hrec]
      unfold setByte
      -- byte `k + 1` of `a + 256 * r` is byte `k` of `r`, and it can be taken out of `r` without borrowing
      have hp : 2 ^ (8 * (k + 1)) = 256 * 2 ^ (8 * k) := by rw [Nat.mul_succ, Nat.pow_add, Nat.mul_comm]
      have hd : (a + 256 * ofLe ws) / (256 * 2 ^ (8 * k)) = ofLe ws / 2 ^ (8 * k) := by
        rw [← Nat.div_div_eq_div_mul]
        congr 1
        omega
      rw [hp, hd]
      generalize hdd : ofLe ws / 2 ^ (8 * k) % 256 = d
      have hle : d * 2 ^ (8 * k) ≤ ofLe ws := by
        have h1 : d ≤ ofLe ws / 2 ^ (8 * k) := by rw [← hdd]; exact Nat.mod_le _ _
        exact Nat.le_trans (Nat.mul_le_mul_right _ h1) (Nat.div_mul_le_self _ _)
      rw [← Nat.mul_assoc, ← Nat.mul_assoc, Nat.mul_comm d 256, Nat.mul_comm b 256, Nat.mul_assoc, Nat.mul_assoc]
      generalize d * 2 ^ (8 * k) = D at *
      generalize b * 2 ^ (8 * k) = B at *
      omega

theorem setBytes_ofLe (st : List (Nat × Nat)) (ws : List Nat) (hws : ∀ b ∈ ws, b < 256)
    (hst : ∀ p ∈ st, p.1 < ws.length ∧ p.2 < 256) : setBytes (ofLe ws) st = ofLe (applyStores ws st) := by
  induction st generalizing ws with
  | nil => rfl
  | cons p st ih =>
    have hp := hst p (by simp)
    have hset : ∀ b ∈ ws.set p.1 p.2, b < 256 := by
      intro b hb
      rcases List.mem_or_eq_of_mem_set hb with h | h
      · exact hws b h
      · exact h ▸ hp.2
    have step : applyStores ws (p :: st) = applyStores (ws.set p.1 p.2) st := rfl
    rw [step, ← ih _ hset (by simpa using fun q hq => hst q (by simp [hq])), ← setByte_ofLe ws hws _ _ hp.1]
    rfl

/-- loading `f i` into byte `i` of a zeroed word, for every `i < n` in any order, gives the little-endian value of
    `f 0, …, f (n-1)` -/
theorem setBytes_map (f : Nat → Nat) {idx : List Nat} {n : Nat} (h : idx.Perm (List.range n))
    (hf : ∀ i, i < n → f i < 256) : setBytes 0 (idx.map fun i => (i, f i)) = ofLe ((List.range n).map f) := by
  have hz : ∀ n, ofLe (List.replicate n 0) = 0 := by
    intro n
    induction n with
    | zero => rfl
    | succ n ih => rw [List.replicate_succ, ofLe, ih]
  have hw := writes_map f h
  rw [Writes, List.length_map, List.length_range] at hw
  rw [← hw.1, ← setBytes_ofLe _ _ (fun b hb => by rw [List.eq_of_mem_replicate hb]; omega), hz]
  intro p hp
  obtain ⟨i, hi, rfl⟩ := List.mem_map.mp hp
  have hin : i < n := List.mem_range.mp (h.mem_iff.mp hi)
  exact ⟨by rw [List.length_replicate]; exact hin, hf i hin⟩

/-! ### varintExternalPutFixedWidth / varintExternalPut / varintExternalGet -/

/-- the order in which the unrolled copy of width `w` goes through the byte indices: from the top down, except the
    8-byte arm, which goes up -/
def copyOrder (w : Nat) : List Nat := if w = 8 then List.range 8 else (List.range w).reverse

theorem copyOrder_perm (w : Nat) : (copyOrder w).Perm (List.range w) := by
  unfold copyOrder
  split
  · subst w
    exact List.Perm.refl _
  · exact List.reverse_perm _

/-- the stores of the unrolled copy of width `w`: byte `i` of `v` goes to index `i` -/
def leStores (v w : Nat) : List (Nat × Nat) := (copyOrder w).map fun i => (i, v / 2 ^ (8 * i) % 256)

theorem writes_leStores (v w : Nat) : Writes (leStores v w) (leBytes w v) := by
  rw [leBytes_eq_map]
  exact writes_map _ (copyOrder_perm w)

/-- the unrolled copy of width `w`, over whatever `w` bytes were there, leaves the little-endian bytes of `v` -/
theorem applyStores_leStores (v w : Nat) (ws : List Nat) (hl : ws.length = w) :
    applyStores ws (leStores v w) = leBytes w v := by
  rw [leBytes_eq_map]
  exact applyStores_map_perm _ (copyOrder_perm w) ws hl

theorem extPutFixedWidth_stores (v w : Nat) (h1 : 1 ≤ w) (h8 : w ≤ 8) : extPutFixedWidth v w = leStores v w := by
  have hw : w = 1 ∨ w = 2 ∨ w = 3 ∨ w = 4 ∨ w = 5 ∨ w = 6 ∨ w = 7 ∨ w = 8 := by omega
  rcases hw with rfl | rfl | rfl | rfl | rfl | rfl | rfl | rfl <;> rfl

/-- **`varintExternalPutFixedWidth(p, v, w)`**, 1 ≤ w ≤ 8: the bytes left at p[0 … w-1] are the little-endian bytes of
    `v`, every index below `w` is stored exactly once and nothing at or beyond `w` -/
theorem extPutFixedWidth_eq (v w : Nat) (h1 : 1 ≤ w) (h8 : w ≤ 8) :
    Writes (extPutFixedWidth v w) (External.encFixed v w) := by
  rw [extPutFixedWidth_stores v w h1 h8]
  exact writes_leStores v w

/-- `varintExternalCopyUsedBytesLittleEndian_`: the minimal width, found by the loop, and the copy of that width -/
theorem extCopyUsedLE_eq (v fuel : Nat) (hv : v < 2 ^ 64) (hf : 8 ≤ fuel) :
    extCopyUsedLE fuel v = some (extLen v, leStores v (extLen v)) := by
  have h8 := extLen_le_8 hv
  have h1 := extLen_pos v
  unfold extCopyUsedLE
  simp only []
  simp only [width_loop_one extCopyUsedLE_loop1 (fun _ _ _ => rfl) fuel v (by omega) (by omega)]
  generalize extLen v = w at h1 h8
  have hw : w = 1 ∨ w = 2 ∨ w = 3 ∨ w = 4 ∨ w = 5 ∨ w = 6 ∨ w = 7 ∨ w = 8 := by omega
  rcases hw with rfl | rfl | rfl | rfl | rfl | rfl | rfl | rfl <;> rfl

/-- **`varintExternalPut(p, v)`** for every 64-bit value and every fuel ≥ 8: returns the minimal width and leaves the
    minimal little-endian slice, each byte stored once, nothing beyond the width -/
theorem extPut_eq (v fuel : Nat) (hv : v < 2 ^ 64) (hf : 8 ≤ fuel) :
    ∃ stores, extPut fuel v = some (extLen v, stores) ∧ Writes stores (External.enc v) := by
  unfold extPut
  rw [extCopyUsedLE_eq v fuel hv hf]
  exact ⟨_, rfl, writes_leStores v (extLen v)⟩

theorem extLoadLE_eq (p : Nat → Nat) (w : Nat) (h1 : 1 ≤ w) (h8 : w ≤ 8) :
    extLoadLE p w = setBytes 0 ((copyOrder w).map fun i => (i, p i)) := by
  have hw : w = 1 ∨ w = 2 ∨ w = 3 ∨ w = 4 ∨ w = 5 ∨ w = 6 ∨ w = 7 ∨ w = 8 := by omega
  rcases hw with rfl | rfl | rfl | rfl | rfl | rfl | rfl | rfl <;>
    simp only [extLoadLE, extLoadLE_arm1, extLoadLE_arm2, extLoadLE_arm3, extLoadLE_arm4, extLoadLE_arm5,
      extLoadLE_arm6, extLoadLE_arm7, extLoadLE_arm8, Nat.reduceEqDiff, if_true, if_false, copyOrder, List.range,
      List.range.loop, List.reverse, List.reverseAux, List.map, setBytes]

theorem setBytes_leStores (x w : Nat) : setBytes 0 (leStores x w) = x % 256 ^ w := by
  unfold leStores
  rw [setBytes_map _ (copyOrder_perm w) (fun i _ => Nat.mod_lt _ (by omega)), ← leBytes_eq_map, ofLe_leBytes]

/-- **`varintExternalGet(p, w)`**, 1 ≤ w ≤ 8, on a buffer of bytes: the little-endian value of p[0 … w-1] -/
theorem extGet_eq (p : Nat → Nat) (w : Nat) (h1 : 1 ≤ w) (h8 : w ≤ 8) (hb : ∀ i, i < w → p i < 256) :
    extGet p w = ofLe ((List.range w).map p) := by
  unfold extGet
  rw [extLoadLE_eq p w h1 h8]
  exact setBytes_map p (copyOrder_perm w) hb

/-! ### varintExternalAdd_ (what varintExternalAddNoGrow / AddGrow call with `force` = false / true) -/

/-- a C truth value tested against zero -/
theorem flag_ne_zero (c : Prop) [Decidable c] : ((if c then (1 : Int) else 0) ≠ 0) ↔ c := by
  by_cases h : c <;> simp [h]

/-- the model's `!force` for the C's `!force` -/
theorem not_decide_eq_true (c : Prop) [Decidable c] : ((!decide c) = true) ↔ ¬ c := by
  simp

/-- what the add leaves in the slot: nothing, or the bytes of the new value (each once, none beyond) -/
def AddWrites (stores : List (Nat × Nat)) : Option (List Nat) → Prop
  | none => stores = []
  | some bs => Writes stores bs

/-- **`varintExternalAdd_(p, width, add, force)`** on a slot of `width` bytes (1..8) holding `stored`: return value and
    memory effect are the model's, for every amount in int64, both values of `force` and every fuel ≥ 8 -/
theorem extAdd_eq (p : Nat → Nat) (w : Nat) (h1 : 1 ≤ w) (h8 : w ≤ 8) (hb : ∀ i, i < w → p i < 256) (amount : Int)
    (force : Nat) (fuel : Nat) (hf : 8 ≤ fuel) :
    ∃ stores, extAdd fuel p w amount force =
        some ((External.add (ofLe ((List.range w).map p)) w amount (decide (force ≠ 0))).1, stores) ∧
      AddWrites stores (External.add (ofLe ((List.range w).map p)) w amount (decide (force ≠ 0))).2 := by
  unfold extAdd External.add
  simp only [Bits.rdw_nil, Nat.zero_add, extGet_eq p w h1 h8 hb, Sizes.sx64_eq, toI64_wrap, flag_ne_zero, not_decide_eq_true]
  generalize ofLe ((List.range w).map p) = stored
  generalize toI64 stored + amount = S
  have hu : toU64 S < 2 ^ 64 := toU64_lt S
  have hl8 := extLen_le_8 hu
  have hl1 := extLen_pos (toU64 S)
  by_cases hov : S < -(2 ^ 63 : Int) ∨ S > (2 ^ 63 : Int) - 1
  · simp only [if_pos hov]
    exact ⟨[], rfl, rfl⟩
  · simp only [if_neg hov]
    simp only [width_loop_one extAdd_loop1 (fun _ _ _ => rfl) fuel (toU64 S) (by omega) (by omega)]
    by_cases hg : extLen (toU64 S) > w ∧ ¬ (force ≠ 0)
    · simp only [if_pos hg]
      exact ⟨[], rfl, rfl⟩
    · simp only [if_neg hg]
      obtain ⟨stores, hput, hwr⟩ := extPut_eq (toU64 S) fuel hu hf
      rw [hput]
      exact ⟨stores, rfl, hwr⟩

/-! ### loads out of a byte buffer -/

open Varint.Bridge.Tagged (bufOf bufOf_lt range_map_bufOf) in
section
/-- the inlined `varintExternalGetQuick_(p, w, out)`: arms for 1, 2 and 3 bytes, `varintExternalGet` otherwise -/
theorem getQuick_eq (bs : List Nat) (hb : ∀ b ∈ bs, b < 256) (off w : Nat) (h1 : 1 ≤ w) (h8 : w ≤ 8)
    (hin : off + w ≤ bs.length) :
    (if w = 1 then bufOf bs off
      else if w = 2 then (bufOf bs (off + 1) * 2 ^ 8 % 2 ^ 64) ||| bufOf bs off
      else if w = 3 then ((bufOf bs (off + 2) * 2 ^ 16 % 2 ^ 64) ||| (bufOf bs (off + 1) * 2 ^ 8 % 2 ^ 64)) ||| bufOf bs off
      else extGet (fun i => bufOf bs (off + i)) w) = ofLe ((bs.drop off).take w) := by
  have hr := range_map_bufOf bs off w hin
  have b0 := bufOf_lt bs hb off
  have b1 := bufOf_lt bs hb (off + 1)
  have b2 := bufOf_lt bs hb (off + 2)
  by_cases c1 : w = 1
  · subst c1
    rw [if_pos rfl, ← hr]
    simp [List.range, List.range.loop, ofLe]
  · rw [if_neg c1]
    by_cases c2 : w = 2
    · subst c2
      rw [if_pos rfl, ← hr]
      simp only [List.range, List.range.loop, List.map, ofLe, Nat.add_zero]
      rw [Tagged.shl_or 8 (by omega) (by omega)]
      omega
    · rw [if_neg c2]
      by_cases c3 : w = 3
      · subst c3
        rw [if_pos rfl, ← hr]
        simp only [List.range, List.range.loop, List.map, ofLe, Nat.add_zero]
        rw [Tagged.or3 (by omega) b1 b0]
        omega
      · rw [if_neg c3, extGet_eq _ w h1 h8 (fun i _ => bufOf_lt bs hb _), hr]

/-- the C's little-endian load of `w` bytes at `off` returns what the model makes of the `w` bytes it takes there -/
theorem extGet_take (bs : List Nat) (hb : ∀ b ∈ bs, b < 256) (off w : Nat) (p : List Nat) (h1 : 1 ≤ w) (h8 : w ≤ 8)
    (hp : takeExact w (bs.drop off) = some p) : extGet (fun i => bufOf bs (off + i)) w = ofLe p := by
  obtain ⟨hpe, hple, _⟩ := takeExact_some hp
  rw [List.length_drop] at hple
  rw [extGet_eq _ w h1 h8 (fun i _ => bufOf_lt bs hb _), range_map_bufOf bs off w (by omega), hpe]

end

end Varint.Bridge.External
