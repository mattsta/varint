import Varint.Gen.CChained
import Varint.Bridge.Tagged
import Varint.Lemmas.ChainedUnrolled
/-
  Bridge: `varintChainedGetVarint` / `varintChainedGetVarint32` of src/varintChained.c, as translated by
  tools/c2lean.py from the CURRENT source (`Varint.Gen.C.chainedGetVarint`, `chainedGetVarint32`), compute
  exactly what the hand-written literal transcription (`ChainedU.getVarint`, `ChainedU.getVarint32Fn`)
  computes, wherever the transcription does not read beyond the buffer.  Both are the same sequence of
  operations: once the `let`s are substituted and `shl32`/`shl64`/`shr`/`SLOT_*`, `& 0x7f = % 128` unfolded,
  the two programs are walked side by side, one byte and one shared test at a time, and every returning
  branch closes by `rfl`, so any semantic change to the C breaks it.  With `getVarint_eq_dec` this ties
  the C text to the format-level reader `Chained.dec`.
-/
namespace Varint.Bridge.Chained
open Varint Varint.Gen.C Varint.Bridge.Tagged

/-- `((int8_t *)p)[i] >= 0` is "the flag bit of the byte is clear" -/
theorem sx8_nonneg (b : Nat) (hb : b < 256) : (sx 8 b ≥ (0 : Int)) ↔ b < 128 := by
  unfold sx
  simp only [Nat.reducePow, Nat.reduceSub, Int.reducePow]
  split <;> omega

/-- `(uint32_t)(p[0] & 0x7f)` (the `&` is done on `int` after promotion) -/
theorem int_and7f (n : Nat) :
    ((((n : Nat) : Int) % (128 : Int)) % (2 ^ 32 : Int)).toNat = n % 128 := by
  simp only [Int.reducePow]
  omega

/-- two programs that branch on the same test agree if they agree in each branch -/
theorem ite_both {α β : Type} {c : Prop} [Decidable c] {a b r : α} {a' b' r' : β}
    (hpos : c → a = r → a' = r') (hneg : ¬ c → b = r → b' = r') :
    (if c then a else b) = r → (if c then a' else b') = r' := by
  by_cases h : c
  · rw [if_pos h, if_pos h]; exact hpos h
  · rw [if_neg h, if_neg h]; exact hneg h

/-- The generated function on ANY memory `p` that agrees with `buf` on the indices `buf` has. -/
theorem chainedGetVarint_core (p : Nat → Nat) (buf : List Nat)
    (hp : ∀ k x, buf[k]? = some x → x = p k) (hb : ∀ b ∈ buf, b < 256) (v l : Nat)
    (h : ChainedU.getVarint buf = some (v, l)) :
    chainedGetVarint p = (l, some v) := by
  revert h
  unfold ChainedU.getVarint chainedGetVarint
  simp -zeta only [Option.bind_eq_bind, Option.pure_def, ChainedU.shl32, ChainedU.shl64, ChainedU.shr,
    ChainedU.SLOT_2_0, ChainedU.SLOT_4_2_0, ChainedU.and_7f, int_and7f, ne_eq, Decidable.not_not, Nat.reducePow]
  conv => zeta
  simp only [Nat.reduceAdd, Nat.reduceSub]
  rcases e : buf[0]? with _ | b
  · intro h; cases h
  have lt0 : b < 256 := hb _ (List.mem_of_getElem? e)
  obtain rfl := hp 0 b e
  rw [Option.bind_some]
  by_cases c0 : p 0 < 128
  · rw [if_pos c0, if_pos ((sx8_nonneg _ lt0).2 c0)]; intro h; cases h; rfl
  rw [if_neg c0, if_neg (mt (sx8_nonneg _ lt0).1 c0)]
  rcases e : buf[1]? with _ | b
  · intro h; cases h
  have lt1 : b < 256 := hb _ (List.mem_of_getElem? e)
  obtain rfl := hp 1 b e
  rw [Option.bind_some]
  by_cases c1 : p 1 < 128
  · rw [if_pos c1, if_pos ((sx8_nonneg _ lt1).2 c1)]; intro h; cases h; rfl
  rw [if_neg c1, if_neg (mt (sx8_nonneg _ lt1).1 c1)]
  rcases e : buf[2]? with _ | b
  · intro h; cases h
  obtain rfl := hp 2 b e
  rw [Option.bind_some]
  refine ite_both (fun _ h => by cases h; rfl) (fun _ => ?_)
  rcases e : buf[3]? with _ | b
  · intro h; cases h
  obtain rfl := hp 3 b e
  rw [Option.bind_some]
  refine ite_both (fun _ h => by cases h; rfl) (fun _ => ?_)
  rcases e : buf[4]? with _ | b
  · intro h; cases h
  obtain rfl := hp 4 b e
  rw [Option.bind_some]
  refine ite_both (fun _ h => by cases h; rfl) (fun _ => ?_)
  rcases e : buf[5]? with _ | b
  · intro h; cases h
  obtain rfl := hp 5 b e
  rw [Option.bind_some]
  refine ite_both (fun _ h => by cases h; rfl) (fun _ => ?_)
  rcases e : buf[6]? with _ | b
  · intro h; cases h
  obtain rfl := hp 6 b e
  rw [Option.bind_some]
  refine ite_both (fun _ h => by cases h; rfl) (fun _ => ?_)
  rcases e : buf[7]? with _ | b
  · intro h; cases h
  obtain rfl := hp 7 b e
  rw [Option.bind_some]
  refine ite_both (fun _ h => by cases h; rfl) (fun _ => ?_)
  -- byte 8; `p[-4]` is byte 4 again
  rcases e : buf[8]? with _ | b
  · intro h; cases h
  obtain rfl := hp 8 b e
  rw [Option.bind_some, Option.bind_some]
  intro h; cases h; rfl

/-- `varintChainedGetVarint(p, &v)` on a buffer holding the bytes `buf`: whenever the literal model does
    not read beyond `buf`, the C returns the model's width and stores the model's value. -/
theorem chainedGetVarint_eq (buf : List Nat) (hb : ∀ b ∈ buf, b < 256) (v l : Nat)
    (h : ChainedU.getVarint buf = some (v, l)) :
    Varint.Gen.C.chainedGetVarint (bufOf buf) = (l, some v) :=
  chainedGetVarint_core (bufOf buf) buf (bufOf_of_getElem? buf) hb v l h

/-- the translated C against the format-level reader -/
theorem chainedGetVarint_eq_dec (buf : List Nat) (hb : ∀ b ∈ buf, b < 256) (v l : Nat)
    (h : Chained.dec buf = some (v, l)) :
    Varint.Gen.C.chainedGetVarint (bufOf buf) = (l, some v) :=
  chainedGetVarint_eq buf hb v l (by rw [ChainedU.getVarint_eq_dec buf hb]; exact h)

/-- Round trip on the C itself: the translated `varintChainedGetVarint` reads back every 64-bit value from
    the bytes the encoder model writes, whatever follows them. -/
theorem chainedGetVarint_enc (v : Nat) (hv : v < 2 ^ 64) (rest : List Nat) (hr : ∀ b ∈ rest, b < 256) :
    Varint.Gen.C.chainedGetVarint (bufOf (Chained.enc v ++ rest)) = ((Chained.enc v).length, some v) :=
  chainedGetVarint_eq _ (List.forall_mem_append.2 ⟨Chained.enc_lt v, hr⟩) v _ (ChainedU.getVarint_enc v hv rest hr)

/-- The generated raw 32-bit function (one-byte case compiled out) on ANY memory `p` that agrees with `buf`
    on the indices `buf` has.  No assumption on the first byte: the translation and the transcription
    agree on unflagged first bytes too (where both differ from the macro / `Chained.dec32`). -/
theorem chainedGetVarint32_core (p : Nat → Nat) (buf : List Nat)
    (hp : ∀ k x, buf[k]? = some x → x = p k) (hb : ∀ b ∈ buf, b < 256) (v n : Nat)
    (h : ChainedU.getVarint32Fn buf = some (v, n)) :
    chainedGetVarint32 p = (n, some v) := by
  revert h
  unfold ChainedU.getVarint32Fn chainedGetVarint32
  simp -zeta only [Option.bind_eq_bind, Option.pure_def, ChainedU.shl32, ChainedU.u8, ChainedU.u32,
    ChainedU.SQLITE_MAX_U32, ChainedU.and_7f, ne_eq, Decidable.not_not, Nat.reducePow, Nat.reduceMul,
    Nat.reduceMod, Nat.reduceOr, Nat.reduceSub, Nat.reduceAdd]
  conv => zeta
  simp only [Nat.reduceAdd, Nat.reduceSub, List.drop_zero]
  rcases e : buf[0]? with _ | b
  · intro h; cases h
  obtain rfl := hp 0 b e
  rw [Option.bind_some]
  rcases e : buf[1]? with _ | b
  · intro h; cases h
  obtain rfl := hp 1 b e
  rw [Option.bind_some]
  refine ite_both (fun _ h => by cases h; rfl) (fun _ => ?_)
  rcases e : buf[2]? with _ | b
  · intro h; cases h
  obtain rfl := hp 2 b e
  rw [Option.bind_some]
  refine ite_both (fun _ h => by cases h; rfl) (fun _ => ?_)
  -- the 64-bit reader on the same pointer, then the clamp
  rcases hg : ChainedU.getVarint buf with _ | ⟨v64, n'⟩
  · intro h; cases h
  rw [chainedGetVarint_core p buf hp hb v64 n' hg, Option.bind_some]
  simp only [Option.getD_some]
  exact ite_both (fun _ h => by cases h; rfl) (fun _ h => by cases h; rfl)

/-- `varintChainedGetVarint32(p, &v)` (the raw function) on a buffer holding the bytes `buf`: whenever the
    literal model does not read beyond `buf`, the C returns the model's width and stores the model's value. -/
theorem chainedGetVarint32_eq (buf : List Nat) (hb : ∀ b ∈ buf, b < 256) (v n : Nat)
    (h : ChainedU.getVarint32Fn buf = some (v, n)) :
    Varint.Gen.C.chainedGetVarint32 (bufOf buf) = (n, some v) :=
  chainedGetVarint32_core (bufOf buf) buf (bufOf_of_getElem? buf) hb v n h

/-- the translated raw 32-bit function against the format-level clamping reader, under its contract
    (first byte flagged: the one-byte case is the macro's) -/
theorem chainedGetVarint32_eq_dec32 (p0 : Nat) (t : List Nat) (h0 : 128 ≤ p0)
    (hb : ∀ b ∈ p0 :: t, b < 256) (v n : Nat) (h : Chained.dec32 (p0 :: t) = some (v, n)) :
    Varint.Gen.C.chainedGetVarint32 (bufOf (p0 :: t)) = (n, some v) :=
  chainedGetVarint32_eq _ hb v n (by rw [ChainedU.getVarint32Fn_eq_dec32 p0 t h0 hb]; exact h)

/-- Round trip on the C itself, 32-bit raw function: every value `128 ≤ v < 2^32` (the values whose
    encoding starts with a flagged byte) is read back from the encoder model's bytes. -/
theorem chainedGetVarint32_enc (v : Nat) (hlo : 128 ≤ v) (hv : v < 2 ^ 32) (rest : List Nat)
    (hr : ∀ b ∈ rest, b < 256) :
    Varint.Gen.C.chainedGetVarint32 (bufOf (Chained.enc v ++ rest)) = ((Chained.enc v).length, some v) := by
  have hb : ∀ b ∈ Chained.enc v ++ rest, b < 256 := List.forall_mem_append.2 ⟨Chained.enc_lt v, hr⟩
  have hd : Chained.dec (Chained.enc v ++ rest) = some (v, (Chained.enc v).length) :=
    Chained.dec_enc v (by omega) rest
  rcases hl : Chained.enc v ++ rest with _ | ⟨p0, t⟩
  · rw [hl] at hd; simp [Chained.dec, Chained.decAux] at hd
  rw [hl] at hd hb
  have h0 : 128 ≤ p0 := by
    apply Decidable.byContradiction
    intro hc
    have hc' : p0 < 128 := by omega
    simp only [Chained.dec, Chained.decAux, Nat.reduceEqDiff, if_false, if_pos hc', Option.some.injEq,
      Prod.mk.injEq, Nat.zero_mul, Nat.zero_add] at hd
    omega
  apply chainedGetVarint32_eq_dec32 p0 t h0 hb
  unfold Chained.dec32
  rw [hd]
  simp only [Option.map_some, Nat.reducePow, Nat.reduceSub, Option.some.injEq, Prod.mk.injEq, and_true]
  rw [if_neg (by omega)]

/-- The C *function* called directly (not through the header macro) on an unflagged first byte: it does
    not return the one-byte varint.  `[0x05, 0x03]`: the format says `(5, 1)`, the compiled function
    stores 643 and returns 2. -/
theorem chainedGetVarint32_unflagged_example :
    Varint.Gen.C.chainedGetVarint32 (bufOf [5, 3]) = (2, some 643) ∧ Chained.dec32 [5, 3] = some (5, 1) :=
  ⟨chainedGetVarint32_eq [5, 3] (by decide) 643 2 ChainedU.getVarint32Fn_differs.1,
   ChainedU.getVarint32Fn_differs.2.1⟩

end Varint.Bridge.Chained
