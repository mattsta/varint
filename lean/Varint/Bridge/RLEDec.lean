import Varint.Gen.CRLEDec
import Varint.Model.RLE
import Varint.Lemmas.RLE
import Varint.Lemmas.RLEH
import Varint.Bridge.Loop
import Varint.Bridge.Tagged
import Varint.Bridge.TaggedAdd
import Varint.Bridge.RLE
/-
  Bridge: varintRLEDecodeRun and varintRLEDecode of src/varintRLE.c (outer loop over runs, inner fill loop), as
  translated by tools/c2lean2.py from the CURRENT source, equal the model Varint.RLE.dec for EVERY byte string the
  model can read and every capacity below 2^63 — hostile run lengths included. Then the readers that go with the count
  header: varintRLEDecodeWithHeader (any readable bytes), varintRLEGetCount, and varintRLEGetAt (valid encodings).
-/
namespace Varint.Bridge.RLEDec
open Varint Varint.Gen.C Varint.Bridge Varint.RLE

/-- `varintRLEDecodeRun(src, &len, &val)` reads what the model's `getRun` reads -/
theorem rleDecodeRun_eq (bs : List Nat) (hb : ∀ b ∈ bs, b < 256) (l v : Nat) (rest : List Nat)
    (h : getRun bs = some (l, v, rest)) :
    ∃ n, rleDecodeRun (Bridge.Tagged.bufOf bs) = (n, some l, some v) ∧ rest = bs.drop n := by
  unfold getRun at h
  cases h1 : Tagged.get bs with
  | fault => simp [h1] at h
  | short => simp [h1] at h
  | ok l' n1 =>
    cases h2 : Tagged.get (bs.drop n1) with
    | fault => simp [h1, h2] at h
    | short => simp [h1, h2] at h
    | ok v' n2 =>
      simp only [h1, h2, Option.some.injEq, Prod.mk.injEq] at h
      obtain ⟨rfl, rfl, rfl⟩ := h
      refine ⟨n1 + n2, ?_, rfl⟩
      have hn1 := (Bounded.getN_ok_spec bs 9 l' n1 h1).2.2.1
      have hn2 := (Bounded.getN_ok_spec (bs.drop n1) 9 v' n2 h2).2.2.1
      unfold rleDecodeRun
      simp only [TaggedAdd.taggedGet64_ok bs hb l' n1 h1, Bridge.Tagged.bufOf_shift,
        TaggedAdd.taggedGet64_ok _ (Bridge.Tagged.mem_drop_lt bs hb n1) v' n2 h2, Option.getD_some,
        toNat_sub_zero_mod _ (show n1 + n2 < 2 ^ 64 by omega)]

/-- the same at the cursor of a reader walking the run list -/
theorem rleDecodeRun_at (bs : List Nat) (hb : ∀ b ∈ bs, b < 256) (ptr l v : Nat) (rest : List Nat)
    (h : getRun (bs.drop ptr) = some (l, v, rest)) :
    ∃ n, rleDecodeRun (fun i => Bridge.Tagged.bufOf bs (ptr + i)) = (n, some l, some v) ∧ rest = bs.drop (ptr + n) := by
  obtain ⟨n, h1, h2⟩ := rleDecodeRun_eq (bs.drop ptr) (Bridge.Tagged.mem_drop_lt bs hb ptr) l v rest h
  exact ⟨n, by rw [Bridge.Tagged.bufOf_shift, h1], by rw [h2, List.drop_drop]⟩

/-- the fill loop writes `w - i` copies -/
theorem fill_loop (total v w : Nat) (hw : total + w < 2 ^ 64) :
    ∀ (k fuel i : Nat) (ws : List (Nat × Nat)), i + k = w → k + 1 ≤ fuel →
      rleDecode_loop2 total v w fuel (i, ws) = .done (w, ws ++ storesFrom (total + i) (List.replicate k v)) := by
  intro k
  induction k with
  | zero =>
    intro fuel i ws hi hf
    obtain ⟨fuel, rfl⟩ := Nat.exists_eq_succ_of_ne_zero (show fuel ≠ 0 by omega)
    rw [rleDecode_loop2, if_neg (by omega), ← hi]
    simp
  | succ k ih =>
    intro fuel i ws hi hf
    obtain ⟨fuel, rfl⟩ := Nat.exists_eq_succ_of_ne_zero (show fuel ≠ 0 by omega)
    rw [rleDecode_loop2, if_pos (by omega)]
    simp only [Nat.mod_eq_of_lt (show i + 1 < 2 ^ 64 by omega), Nat.mod_eq_of_lt (show total + i < 2 ^ 64 by omega)]
    rw [ih fuel (i + 1) _ (by omega) (by omega)]
    simp [List.replicate_succ, Nat.add_assoc]

/-- one pass of the outer loop of `varintRLEDecode` below the capacity: an end marker leaves, a run longer than the room
    is clipped and leaves, any other run is written out and the loop goes on -/
theorem decode_step (bs : List Nat) (hb : ∀ b ∈ bs, b < 256) (cap : Nat) (hcap : cap < 2 ^ 63)
    (fuel ptr total : Nat) (ws : List (Nat × Nat)) (l v : Nat) (rest : List Nat) (ht : total < cap)
    (hg : getRun (bs.drop ptr) = some (l, v, rest)) (hf : cap - total + 1 ≤ fuel) :
    ∃ n, rest = bs.drop (ptr + n) ∧
      rleDecode_loop1 (Bridge.Tagged.bufOf bs) cap (fuel + 1) (ptr, total, ws) =
        if l = 0 then .done (ptr + n, total, ws)
        else if l > cap - total then .done (ptr + n, cap, ws ++ storesFrom total (List.replicate (cap - total) v))
        else rleDecode_loop1 (Bridge.Tagged.bufOf bs) cap fuel
          (ptr + n, total + l, ws ++ storesFrom total (List.replicate l v)) := by
  obtain ⟨n, hrun, hrest⟩ := rleDecodeRun_at bs hb ptr l v rest hg
  refine ⟨n, hrest, ?_⟩
  rw [rleDecode_loop1, if_pos ht, hrun]
  simp only [Option.getD_some, show (cap + 2 ^ 64 - total) % 2 ^ 64 = cap - total by omega]
  by_cases hl0 : l = 0
  · rw [if_pos hl0, if_pos hl0]
  · rw [if_neg hl0, if_neg hl0]
    by_cases hgt : l > cap - total
    · rw [if_pos hgt, if_pos hgt, fill_loop total v (cap - total) (by omega) (cap - total) fuel 0 ws (by omega) (by omega)]
      simp only [if_pos hgt, Nat.add_zero, show (total + (cap - total)) % 2 ^ 64 = cap by omega]
    · rw [if_neg hgt, if_neg hgt, fill_loop total v l (by omega) l fuel 0 ws (by omega) (by omega)]
      simp only [if_neg (Nat.lt_irrefl l), Nat.add_zero, Nat.mod_eq_of_lt (show total + l < 2 ^ 64 by omega)]

theorem decAux_zero_room (f : Nat) (bs : List Nat) : decAux f 0 bs = some [] := by
  cases f <;> simp [decAux]

/-- the outer loop of `varintRLEDecode` follows the model from every position -/
theorem decode_loop (bs : List Nat) (hb : ∀ b ∈ bs, b < 256) (cap : Nat) (hcap : cap < 2 ^ 63) :
    ∀ (mf fuel ptr total : Nat) (ws : List (Nat × Nat)) (out : List Nat), total ≤ cap → cap - total < mf →
      2 * (cap - total) + 2 ≤ fuel →
      decAux mf (cap - total) (bs.drop ptr) = some out →
      ∃ p', rleDecode_loop1 (Bridge.Tagged.bufOf bs) cap fuel (ptr, total, ws) =
        .done (p', total + out.length, ws ++ storesFrom total out) := by
  intro mf
  induction mf with
  | zero => intro fuel ptr total ws out _ h; omega
  | succ mf ih =>
    intro fuel ptr total ws out ht hmf hfu h
    obtain ⟨fuel, rfl⟩ := Nat.exists_eq_succ_of_ne_zero (show fuel ≠ 0 by omega)
    rw [decAux] at h
    by_cases c0 : cap - total = 0
    · rw [if_pos c0, Option.some.injEq] at h
      subst h
      exact ⟨ptr, by rw [rleDecode_loop1, if_neg (by omega)]; simp⟩
    · rw [if_neg c0] at h
      cases hg : getRun (bs.drop ptr) with
      | none => simp [hg] at h
      | some r =>
        obtain ⟨l, v, rest⟩ := r
        obtain ⟨n, rfl, hstep⟩ := decode_step bs hb cap hcap fuel ptr total ws l v rest (by omega) hg (by omega)
        rw [hstep]
        simp only [hg] at h
        by_cases hl0 : l = 0
        · rw [if_pos hl0, Option.some.injEq] at h
          subst h
          exact ⟨ptr + n, by rw [if_pos hl0]; simp⟩
        · rw [if_neg hl0] at h ⊢
          by_cases hgt : l > cap - total
          · rw [if_pos (Nat.le_of_lt hgt), Option.some.injEq] at h
            subst h
            exact ⟨ptr + n, by rw [if_pos hgt, List.length_replicate]; congr 3; omega⟩
          · -- the run fits: the loop goes on, and so does the model unless the room is used up exactly
            have hrec : decAux mf (cap - (total + l)) (bs.drop (ptr + n)) = some (out.drop l) ∧
                out = List.replicate l v ++ out.drop l := by
              by_cases hge : l ≥ cap - total
              · rw [if_pos hge, Option.some.injEq] at h
                subst h
                rw [show cap - (total + l) = 0 by omega, decAux_zero_room, show cap - total = l by omega]
                simp
              · rw [if_neg hge, Nat.sub_sub] at h
                cases hr : decAux mf (cap - (total + l)) (bs.drop (ptr + n)) with
                | none => simp [hr] at h
                | some out' =>
                  simp only [hr, Option.map_some, Option.some.injEq] at h
                  subst h
                  simp
            obtain ⟨p', hp'⟩ := ih fuel (ptr + n) (total + l) (ws ++ storesFrom total (List.replicate l v)) _
              (by omega) (by omega) (by omega) hrec.1
            refine ⟨p', ?_⟩
            rw [if_neg hgt, hp']
            conv => rhs; rw [hrec.2]
            simp [storesFrom_append, Nat.add_assoc]
/-- **`varintRLEDecode(src, values, maxCount)`** on ANY bytes the model can read (valid, hostile run lengths up to
    2^64-1, zero-length runs …) and every capacity below 2^63: the C returns the model's count and stores exactly the
    model's values at values[0], values[1], … in order — in particular never at an index ≥ maxCount -/
theorem rleDecode_eq (bs : List Nat) (hb : ∀ b ∈ bs, b < 256) (cap : Nat) (hcap : cap < 2 ^ 63) (out : List Nat)
    (h : RLE.dec bs cap = some out) (fuel : Nat) (hf : 2 * cap + 2 ≤ fuel) :
    rleDecode fuel (Bridge.Tagged.bufOf bs) cap = some (out.length, storesFrom 0 out) := by
  unfold rleDecode
  simp only []
  unfold RLE.dec at h
  obtain ⟨p', hp'⟩ := decode_loop bs hb cap hcap (cap + 1) fuel 0 0 [] out (by omega) (by omega) (by omega)
    (by simpa using h)
  rw [hp']
  simp


theorem encRuns_lt (rs : List (Nat × Nat)) (hr : ∀ r ∈ rs, r.1 < 2 ^ 64 ∧ r.2 < 2 ^ 64) :
    ∀ b ∈ encRuns rs, b < 256 := by
  intro b hb
  unfold encRuns at hb
  rw [List.mem_flatMap] at hb
  obtain ⟨⟨l, v⟩, hm, hb⟩ := hb
  have := hr _ hm
  rcases List.mem_append.1 hb with h | h
  · exact Tagged.enc_lt l b h
  · exact Tagged.enc_lt v b h

theorem enc_lt (xs : List Nat) (hx : ∀ x ∈ xs, x < 2 ^ 64) (hn : xs.length < 2 ^ 64) :
    ∀ b ∈ RLE.enc xs, b < 256 :=
  encRuns_lt _ (RLE.runs_lt xs hx hn)


/-- the fill loop of the header variant stops at the end of the run or at the capacity, whichever comes first -/
theorem fillH_loop (cap l v : Nat) :
    ∀ (k fuel i dec : Nat) (ws : List (Nat × Nat)), i + k ≤ l → dec + k ≤ cap → i + k = l ∨ dec + k = cap →
      i + k < 2 ^ 64 → dec + k < 2 ^ 64 → k + 1 ≤ fuel →
      ∃ i', rleDecodeWithHeader_loop2 cap l v fuel (i, dec, ws) =
        .done (i', dec + k, ws ++ storesFrom dec (List.replicate k v)) := by
  intro k
  induction k with
  | zero =>
    intro fuel i dec ws hi hd hstop _ _ hf
    obtain ⟨fuel, rfl⟩ := Nat.exists_eq_succ_of_ne_zero (show fuel ≠ 0 by omega)
    rw [rleDecodeWithHeader_loop2, if_neg (by omega)]
    exact ⟨i, by simp⟩
  | succ k ih =>
    intro fuel i dec ws hi hd hstop hi64 hd64 hf
    obtain ⟨fuel, rfl⟩ := Nat.exists_eq_succ_of_ne_zero (show fuel ≠ 0 by omega)
    rw [rleDecodeWithHeader_loop2, if_pos (by omega)]
    simp only [Nat.mod_eq_of_lt (show dec + 1 < 2 ^ 64 by omega), Nat.mod_eq_of_lt (show i + 1 < 2 ^ 64 by omega)]
    obtain ⟨i', h⟩ := ih fuel (i + 1) (dec + 1) (ws ++ [(dec, v)]) (by omega) (by omega) (by omega) (by omega)
      (by omega) (by omega)
    refine ⟨i', ?_⟩
    rw [h]
    simp [List.replicate_succ, Nat.add_assoc, Nat.add_comm 1 k]

theorem decodeH_loop (bs : List Nat) (hb : ∀ b ∈ bs, b < 256) (cap total : Nat) (hcap : cap < 2 ^ 63) :
    ∀ (mf fuel ptr dec : Nat) (ws : List (Nat × Nat)) (out : List Nat), dec ≤ cap →
      mf + cap + 1 ≤ fuel →
      decHAux mf dec total cap (bs.drop ptr) = some out →
      ∃ p', rleDecodeWithHeader_loop1 (Bridge.Tagged.bufOf bs) cap total fuel (ptr, dec, ws) =
        .done (p', dec + out.length, ws ++ storesFrom dec out) := by
  intro mf
  induction mf with
  | zero => intro fuel ptr dec ws out _ _ h; simp [decHAux] at h
  | succ mf ih =>
    intro fuel ptr dec ws out hd hfu h
    obtain ⟨fuel, rfl⟩ := Nat.exists_eq_succ_of_ne_zero (show fuel ≠ 0 by omega)
    rw [decHAux] at h
    rw [rleDecodeWithHeader_loop1]
    by_cases c0 : dec ≥ total ∨ dec ≥ cap
    · rw [if_pos c0, Option.some.injEq] at h
      subst h
      exact ⟨ptr, by rw [if_neg (by omega)]; simp⟩
    · rw [if_neg c0] at h
      rw [if_pos (by omega)]
      cases hg : getRun (bs.drop ptr) with
      | none => simp [hg] at h
      | some r =>
        obtain ⟨l, v, rest⟩ := r
        obtain ⟨n, hrun, rfl⟩ := rleDecodeRun_at bs hb ptr l v rest hg
        simp only [hg] at h
        cases hrec : decHAux mf (dec + min l (cap - dec)) total cap (bs.drop (ptr + n)) with
        | none => simp [hrec] at h
        | some out' =>
          simp only [hrec, Option.map_some, Option.some.injEq] at h
          subst h
          have hmin := Nat.min_le_right l (cap - dec)
          obtain ⟨i', hfill⟩ := fillH_loop cap l v (min l (cap - dec)) fuel 0 dec ws (by omega) (by omega) (by omega)
            (by omega) (by omega) (by omega)
          obtain ⟨p', hp'⟩ := ih fuel (ptr + n) (dec + min l (cap - dec))
            (ws ++ storesFrom dec (List.replicate (min l (cap - dec)) v)) out' (by omega) (by omega) hrec
          refine ⟨p', ?_⟩
          rw [hrun]
          simp only [Option.getD_some, hfill, hp']
          simp [storesFrom_append, Nat.add_assoc]

/-- **`varintRLEDecodeWithHeader(src, values, maxCount)`** on any readable bytes: a declared count above the capacity
    is the documented failure (returns 0, stores nothing); otherwise the model's values, at indices 0 … n-1 -/
theorem rleDecodeWithHeader_eq (bs : List Nat) (hb : ∀ b ∈ bs, b < 256) (cap : Nat) (hcap : cap < 2 ^ 63)
    (res : Option (List Nat)) (h : RLE.decH bs cap = some res) (fuel : Nat)
    (hf : bs.length + 2 * cap + 5 ≤ fuel) :
    rleDecodeWithHeader fuel (Bridge.Tagged.bufOf bs) cap =
      some (match res with | none => (0, []) | some out => (out.length, storesFrom 0 out)) := by
  unfold rleDecodeWithHeader
  unfold RLE.decH at h
  cases h1 : Tagged.get bs with
  | fault => simp [h1] at h
  | short => simp [h1] at h
  | ok total n1 =>
    simp only [h1] at h
    rw [TaggedAdd.taggedGet64_ok bs hb total n1 h1]
    simp only [Option.getD_some]
    by_cases c : total > cap
    · rw [if_pos c, Option.some.injEq] at h
      subst h
      rw [if_pos c]
    · rw [if_neg c] at h
      rw [if_neg c]
      cases hd : decHAux (bs.length + total + 2) 0 total cap (bs.drop n1) with
      | none => simp [hd] at h
      | some out =>
        simp only [hd, Option.map_some, Option.some.injEq] at h
        subst h
        obtain ⟨p', hp'⟩ := decodeH_loop bs hb cap total hcap (bs.length + total + 2) fuel n1 0 [] out (by omega)
          (by omega) hd
        rw [hp']
        simp

/-- `varintRLEGetCount` reads the header -/
theorem rleGetCount_eq (bs : List Nat) (hb : ∀ b ∈ bs, b < 256) (v n : Nat) (h : Tagged.get bs = .ok v n) :
    rleGetCount (Bridge.Tagged.bufOf bs) = v := by
  unfold rleGetCount
  rw [TaggedAdd.taggedGet64_ok bs hb v n h]
  rfl


/-- the loop of `varintRLEGetAt` over a well-formed run list -/
theorem getAt_loop (bs rest : List Nat) (hb : ∀ b ∈ bs, b < 256) (i : Nat) :
    ∀ (rs : List (Nat × Nat)) (fuel ptr pos : Nat), (∀ r ∈ rs, 1 ≤ r.1 ∧ r.1 < 2 ^ 64 ∧ r.2 < 2 ^ 64) →
      bs.drop ptr = encRuns rs ++ rest → pos ≤ i → i < pos + total rs → pos + total rs < 2 ^ 64 →
      rs.length + 1 ≤ fuel →
      rleGetAt_loop1 (Bridge.Tagged.bufOf bs) i fuel (ptr, pos) = .ret ((expand rs).getD (i - pos) 0) := by
  intro rs
  induction rs with
  | nil => intro fuel ptr pos _ _ h1 h2; simp [total] at h2; omega
  | cons r rs ih =>
    obtain ⟨l, v⟩ := r
    intro fuel ptr pos hr hd h1 h2 h3 hf
    rw [List.length_cons] at hf
    obtain ⟨fuel, rfl⟩ := Nat.exists_eq_succ_of_ne_zero (show fuel ≠ 0 by omega)
    have hlv := hr (l, v) List.mem_cons_self
    rw [total_cons] at h2 h3
    obtain ⟨n, hrun, hrest⟩ := rleDecodeRun_at bs hb ptr l v _ (hd ▸ getRun_encRuns l v rs rest hlv.2.1 hlv.2.2)
    rw [rleGetAt_loop1, if_pos (by decide), hrun]
    simp only [Option.getD_some, Nat.mod_eq_of_lt (show pos + l < 2 ^ 64 by omega)]
    rw [if_neg (by omega), expand_cons, getD_replicate_append]
    by_cases c : pos + l > i
    · rw [if_pos c, if_pos (by omega)]
    · rw [if_neg c, if_neg (by omega),
        ih fuel (ptr + n) (pos + l) (fun r hr' => hr r (List.mem_cons_of_mem _ hr')) hrest.symm (by omega) (by omega)
          (by omega) (by omega),
        Nat.sub_sub]

/-- **`varintRLEGetAt(src, index)`** on a valid encoding returns the element the full decoder returns at that index -/
theorem rleGetAt_eq (xs rest : List Nat) (hx : ∀ x ∈ xs, x < 2 ^ 64) (hn : xs.length < 2 ^ 63)
    (hr : ∀ b ∈ rest, b < 256) (i : Nat) (hi : i < xs.length) (fuel : Nat) (hf : xs.length + 2 ≤ fuel) :
    rleGetAt fuel (Bridge.Tagged.bufOf (RLE.enc xs ++ rest)) i = some (xs.getD i 0) := by
  unfold rleGetAt
  simp only []
  have hb : ∀ b ∈ RLE.enc xs ++ rest, b < 256 := by
    intro b hbm
    rcases List.mem_append.1 hbm with h1 | h1
    · exact enc_lt xs hx (by omega) b h1
    · exact hr b h1
  have hruns : ∀ r ∈ runs xs, 1 ≤ r.1 ∧ r.1 < 2 ^ 64 ∧ r.2 < 2 ^ 64 :=
    fun r hr' => ⟨RLE.runs_pos xs r hr', RLE.runs_lt xs hx (by omega) r hr'⟩
  have hlen := RLE.runs_length_le xs
  rw [getAt_loop (RLE.enc xs ++ rest) rest hb i (runs xs) fuel 0 0 hruns (by simp [RLE.enc])
    (by omega) (by rw [RLE.total_runs]; omega) (by rw [RLE.total_runs]; omega) (by omega)]
  simp [RLE.expand_runs]

end Varint.Bridge.RLEDec
