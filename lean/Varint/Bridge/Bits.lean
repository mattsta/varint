import Varint.Gen.CBits
import Varint.Model.Bitstream
import Varint.Lemmas.BitField
import Varint.Bridge.Loop
import Varint.Bridge.Mem
/-
  Bridge: varintBitstreamSet / varintBitstreamGet of src/varintBitstream.h (64-bit slots), as translated by
  tools/c2lean2.py from the CURRENT header — pointer to the slot, read-modify-write of one or two slots — equal the
  hand-written model Varint.Bitstream.set/get for EVERY bit offset below 2^64, every width 1..64, every value that
  fits, every prior contents.
-/
namespace Varint.Bridge.Bits
open Varint Varint.Gen.C Varint.Bridge Varint.BF

/-- `x & ~m` on 64-bit words -/
theorem testBit_andNot64 (x m j : Nat) (hx : x < 2 ^ 64) (hm : m < 2 ^ 64) :
    (x &&& (2 ^ 64 - 1 - m)).testBit j = (x.testBit j && !m.testBit j) := by
  rw [Nat.testBit_and, show 2 ^ 64 - 1 - m = 2 ^ 64 - (m + 1) by omega, Nat.testBit_two_pow_sub_succ hm]
  by_cases hj : j < 64
  · simp [hj]
  · simp [hj, testBit_false_of_lt hx (by omega : 64 ≤ j)]

theorem mask_mul_lt (n a : Nat) (h : a + n ≤ 64) : (2 ^ n - 1) * 2 ^ a < 2 ^ 64 := by
  have h1 : (2 ^ n - 1) * 2 ^ a < 2 ^ n * 2 ^ a :=
    Nat.mul_lt_mul_of_pos_right (by have := Nat.two_pow_pos n; omega) (Nat.two_pow_pos a)
  rw [← Nat.pow_add] at h1
  exact Nat.lt_of_lt_of_le h1 (Nat.pow_le_pow_right (by omega) (by omega))

theorem val_mul_lt (v n a : Nat) (hv : v < 2 ^ n) (h : a + n ≤ 64) : v * 2 ^ a < 2 ^ 64 := by
  have h1 : v * 2 ^ a < 2 ^ n * 2 ^ a := Nat.mul_lt_mul_of_pos_right hv (Nat.two_pow_pos a)
  rw [← Nat.pow_add] at h1
  exact Nat.lt_of_lt_of_le h1 (Nat.pow_le_pow_right (by omega) (by omega))

/-- the C clears a field with `x & ~(mask << a)`; the model, having no complement on `Nat`, with an xor -/
theorem andNot64_eq_clearField (x a n : Nat) (hx : x < 2 ^ 64) (han : a + n ≤ 64) :
    x &&& (2 ^ 64 - 1 - mask n <<< a) = clearField x a n := by
  apply Nat.eq_of_testBit_eq
  intro j
  rw [testBit_andNot64 x _ j hx (by rw [Nat.shiftLeft_eq]; exact mask_mul_lt n a han), testBit_clearField,
    testBit_mask_shift]

/-- the single-slot store of the C is the model's `insert` -/
theorem cword_insert (x a n v : Nat) (hx : x < 2 ^ 64) (han : a + n ≤ 64) (hv : v < 2 ^ n) :
    (x &&& (2 ^ 64 - 1 - ((2 ^ n - 1) * 2 ^ a % 2 ^ 64))) ||| (v * 2 ^ a % 2 ^ 64) = insert x a n v := by
  rw [Nat.mod_eq_of_lt (mask_mul_lt n a han), Nat.mod_eq_of_lt (val_mul_lt v n a hv han), ← Nat.shiftLeft_eq,
    ← Nat.shiftLeft_eq, show 2 ^ n - 1 = mask n from rfl, andNot64_eq_clearField x a n hx han]
  rfl

theorem mask_div (h b : Nat) : (2 ^ (h + b) - 1) / 2 ^ b = 2 ^ h - 1 := by
  have hA := Nat.two_pow_pos h
  have hB := Nat.two_pow_pos b
  rw [Nat.pow_add]
  have hP : 2 ^ b ≤ 2 ^ h * 2 ^ b := Nat.le_mul_of_pos_left _ hA
  apply Nat.div_eq_of_lt_le
  · rw [Nat.sub_mul, Nat.one_mul]; generalize 2 ^ h * 2 ^ b = P at *; omega
  · rw [Nat.sub_add_cancel hA]; generalize 2 ^ h * 2 ^ b = P at *; omega

/-- first slot of a write that spills into the next slot: the top `high` bits of the value go to the low end -/
theorem cword_first (x high hb v : Nat) (hx : x < 2 ^ 64) (hh : high ≤ 64) (hv : v < 2 ^ (high + hb)) :
    (x &&& (2 ^ 64 - 1 - (2 ^ (high + hb) - 1) / 2 ^ hb)) ||| (v / 2 ^ hb) = insert x 0 high (v >>> hb) := by
  have hv' : v / 2 ^ hb < 2 ^ high := by
    apply Nat.div_lt_of_lt_mul; rw [← Nat.pow_add, Nat.add_comm]; exact hv
  have := cword_insert x 0 high (v / 2 ^ hb) hx (by omega) hv'
  rw [mask_div, Nat.shiftRight_eq_div_pow]
  simp only [Nat.pow_zero, Nat.mul_one] at this
  rw [Nat.mod_eq_of_lt (by have := Nat.pow_le_pow_right (show 0 < 2 by omega) hh; omega),
    Nat.mod_eq_of_lt (Nat.lt_of_lt_of_le hv' (Nat.pow_le_pow_right (by omega) hh))] at this
  exact this

/-- second slot: the low `hb` bits of the value go to the top end; the C's mask and value are shifted out of the
    64-bit word, which is what cuts them to `hb` bits -/
theorem cword_second (y n hb v : Nat) (hy : y < 2 ^ 64) (h2 : hb ≤ n) (h3 : hb ≤ 64) :
    (y &&& (2 ^ 64 - 1 - ((2 ^ n - 1) * 2 ^ (64 - hb) % 2 ^ 64))) ||| (v * 2 ^ (64 - hb) % 2 ^ 64) =
      insert y (64 - hb) hb (v &&& mask hb) := by
  rw [shl_cut 64 v hb h3, show 2 ^ n - 1 = mask n from rfl, shl_cut 64 (mask n) hb h3, mask_and_mask n hb h2,
    andNot64_eq_clearField y (64 - hb) hb hy (by omega)]
  rfl

theorem full_mask (n : Nat) (hn : n ≤ 64) : (2 ^ 64 - 1 - 0) / 2 ^ ((64 + 2 ^ 64 - n) % 2 ^ 64) = 2 ^ n - 1 := by
  have e : (64 + 2 ^ 64 - n) % 2 ^ 64 = 64 - n := by omega
  rw [e, Nat.sub_zero]
  have := mask_div n (64 - n)
  rw [show n + (64 - n) = 64 by omega] at this
  exact this

theorem slot_bits : (8 * 8) % 2 ^ 64 = 64 := rfl

/-- the position arithmetic `varintBitstreamSet` and `Get` share: `high = 64 - off % 64` bits of the slot lie at and
    below the offset, the field's low end is at `high - n` (as `int32_t`), negative when `n - high` bits spill into the
    next slot -/
theorem positions (off n : Nat) (hn : n ≤ 64) :
    sx 32 ((64 + 2 ^ 64 - off % 64) % 2 ^ 64) - sx 32 n = ((64 - off % 64 : Nat) : Int) - (n : Int) ∧
    (n ≤ 64 - off % 64 → (((64 - off % 64 : Nat) : Int) - (n : Int)).toNat = 64 - off % 64 - n) ∧
    (¬ n ≤ 64 - off % 64 →
      ((-(((64 - off % 64 : Nat) : Int) - (n : Int))) % (2 ^ 32 : Int)).toNat = n - (64 - off % 64) ∧
      ((64 + 2 ^ 64 - (n - (64 - off % 64))) % 2 ^ 64) % 2 ^ 32 = 64 - (n - (64 - off % 64))) := by
  have ho : off % 64 < 64 := Nat.mod_lt _ (by omega)
  have e1 : (64 + 2 ^ 64 - off % 64) % 2 ^ 64 = 64 - off % 64 := by omega
  rw [e1, sx_of_lt 32 (64 - off % 64) (by omega), sx_of_lt 32 n (by omega)]
  exact ⟨rfl, fun _ => by omega, fun _ => ⟨by omega, by omega⟩⟩

/-- the stores of `varintBitstreamSet(dst, off, n, v)` in terms of the model's bit-field `insert` -/
theorem bitstreamSet_stores (mem : Nat → Nat) (hm : ∀ j, mem j < 2 ^ 64) (off n v : Nat)
    (hn : n ≤ 64) (hv : v < 2 ^ n) :
    bitstreamSet mem off n v =
      if n ≤ 64 - off % 64 then [(off / 64, insert (mem (off / 64)) (64 - off % 64 - n) n v)]
      else [(off / 64, insert (mem (off / 64)) 0 (64 - off % 64) (v >>> (n - (64 - off % 64)))),
            (off / 64 + 1, insert (mem (off / 64 + 1)) (64 - (n - (64 - off % 64))) (n - (64 - off % 64))
                (v &&& mask (n - (64 - off % 64))))] := by
  obtain ⟨epos, esingle, espill⟩ := positions off n hn
  unfold bitstreamSet
  simp only [slot_bits, epos, full_mask n hn]
  by_cases c : n ≤ 64 - off % 64
  · rw [if_pos (by omega), if_pos c]
    simp only [esingle c, rdw_nil]
    rw [cword_insert (mem (off / 64)) (64 - off % 64 - n) n v (hm _) (by omega) hv]
  · obtain ⟨e3, e4⟩ := espill c
    rw [if_neg (by omega), if_neg c]
    simp only [e3, e4, rdw_nil, rdw_other]
    have hsplit : n = (64 - off % 64) + (n - (64 - off % 64)) := by omega
    have h1 := cword_first (mem (off / 64)) (64 - off % 64) (n - (64 - off % 64)) v (hm _) (by omega)
      (by rw [← hsplit]; exact hv)
    rw [← hsplit] at h1
    rw [h1, cword_second (mem (off / 64 + 1)) n (n - (64 - off % 64)) v (hm _) (by omega) (by omega)]


/-- **`varintBitstreamSet`**: carrying out the C's stores on the slot array gives the model's array — for every bit
    offset below 2^64, every width 1..64, every value that fits and every prior contents -/
theorem bitstreamSet_eq (ws : List Nat) (hws : ∀ w ∈ ws, w < 2 ^ 64) (off n v : Nat)
    (hn : n ≤ 64) (hv : v < 2 ^ n) :
    applyStores ws (bitstreamSet (memOf ws) off n v) = Bitstream.set 64 ws off n v := by
  rw [bitstreamSet_stores (memOf ws) (memOf_lt ws hws) off n v hn hv]
  unfold Bitstream.set
  simp only []
  by_cases c : n ≤ 64 - off % 64
  · rw [if_pos c, if_pos c]; rfl
  · rw [if_neg c, if_neg c]
    rw [getD_set_succ]
    rfl

/-- **`varintBitstreamGet`** reads what the model reads -/
theorem bitstreamGet_eq (ws : List Nat) (hws : ∀ w ∈ ws, w < 2 ^ 64) (off n : Nat)
    (hn : n ≤ 64) :
    bitstreamGet (memOf ws) off n = Bitstream.get 64 ws off n := by
  obtain ⟨epos, esingle, espill⟩ := positions off n hn
  unfold bitstreamGet Bitstream.get
  simp only [slot_bits, epos, full_mask n hn]
  by_cases c : n ≤ 64 - off % 64
  · rw [if_pos (by omega), if_pos c]
    simp only [esingle c, extract, mask, Nat.shiftRight_eq_div_pow, memOf]
  · obtain ⟨e3, e4⟩ := espill c
    rw [if_neg (by omega), if_neg c]
    simp only [e3, e4]
    have hsplit : n = (64 - off % 64) + (n - (64 - off % 64)) := by omega
    have hmd := mask_div (64 - off % 64) (n - (64 - off % 64))
    rw [← hsplit] at hmd
    rw [hmd]
    have hx := memOf_lt ws hws (off / 64)
    have hy := memOf_lt ws hws (off / 64 + 1)
    -- the high part, shifted up, stays inside the word
    have hhi : memOf ws (off / 64) &&& (2 ^ (64 - off % 64) - 1) < 2 ^ (64 - off % 64) :=
      Nat.and_lt_two_pow _ (by have := Nat.two_pow_pos (64 - off % 64); omega)
    have hmul : (memOf ws (off / 64) &&& (2 ^ (64 - off % 64) - 1)) * 2 ^ (n - (64 - off % 64)) < 2 ^ 64 := by
      have h1 := Nat.mul_lt_mul_of_pos_right hhi (Nat.two_pow_pos (n - (64 - off % 64)))
      rw [← Nat.pow_add, ← hsplit] at h1
      exact Nat.lt_of_lt_of_le h1 (Nat.pow_le_pow_right (by omega) hn)
    rw [Nat.mod_eq_of_lt hmul]
    -- the low part is already below 2^hb
    have hlo : memOf ws (off / 64 + 1) / 2 ^ (64 - (n - (64 - off % 64))) < 2 ^ (n - (64 - off % 64)) := by
      apply Nat.div_lt_of_lt_mul
      rw [← Nat.pow_add, show 64 - (n - (64 - off % 64)) + (n - (64 - off % 64)) = 64 by omega]
      exact hy
    simp only [extract, mask, Nat.shiftRight_eq_div_pow, Nat.shiftLeft_eq, Nat.pow_zero, Nat.div_one]
    congr 1
    exact (Nat.and_two_pow_sub_one_of_lt_two_pow hlo).symm

end Varint.Bridge.Bits
