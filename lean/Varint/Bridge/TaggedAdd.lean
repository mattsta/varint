import Varint.Gen.CTaggedAdd
import Varint.Model.Tagged
import Varint.Lemmas.Tagged
import Varint.Lemmas.Add
import Varint.Bridge.Loop
import Varint.Bridge.Tagged
import Varint.Bridge.External
/-
  Bridge: varintTaggedAdd / varintTaggedAddNoGrow / varintTaggedAddGrow of src/varintTagged.c, as translated by
  tools/c2lean2.py from the CURRENT source (read of the slot, `__builtin_saddll_overflow`, re-encode in place),
  equal the model Varint.Tagged.add for every slot the tagged reader accepts (`Tagged.get bs = .ok stored origLen`),
  every amount and both forms.
-/
namespace Varint.Bridge.TaggedAdd
open Varint Varint.Gen.C Varint.Bridge
open Varint.Bridge.External (flag_ne_zero not_decide_eq_true)

/-- `varintTaggedGet64(z, &result)` where the model accepts -/
theorem taggedGet64_ok (bs : List Nat) (hb : ∀ b ∈ bs, b < 256) (v n : Nat) (h : Tagged.get bs = .ok v n) :
    taggedGet64 (Bridge.Tagged.bufOf bs) = (n, some v) := by
  unfold taggedGet64
  have hnf : Tagged.get bs ≠ .fault := by rw [h]; simp
  simp only [Bridge.Tagged.taggedGet64_eq bs hb hnf, h, Option.orElse]

/-- what the call leaves in the buffer, as stores -/
def storesOf : Option (List Nat) → List (Nat × Nat)
  | none => []
  | some bs => storesFrom 0 bs

/-- **`varintTaggedAdd(p, add, force)`** on a slot that holds a tagged varint (`stored`, announced width `origLen`):
    return value and stores are the model's, for every amount and both values of `force` -/
theorem taggedAdd_eq (bs : List Nat) (hb : ∀ b ∈ bs, b < 256) (stored origLen : Nat)
    (hget : Tagged.get bs = .ok stored origLen) (amount : Int) (force : Nat) :
    taggedAdd (Bridge.Tagged.bufOf bs) amount force =
      ((Tagged.add stored origLen amount (decide (force ≠ 0))).1,
       storesOf (Tagged.add stored origLen amount (decide (force ≠ 0))).2) := by
  have hnf : Tagged.get bs ≠ .fault := by rw [hget]; simp
  have hu : toU64 (toI64 stored + amount) < 2 ^ 64 := toU64_lt _
  unfold taggedAdd taggedGet64 Tagged.add
  simp only [Bits.rdw_nil, Nat.zero_add, Bridge.Tagged.taggedGet64_eq bs hb hnf, hget, Option.orElse, Option.getD_some,
    Sizes.sx64_eq, toI64_wrap, flag_ne_zero, not_decide_eq_true, Bridge.Tagged.taggedLen_eq _ hu]
  generalize toI64 stored + amount = S at hu ⊢
  by_cases hov : S < -(2 ^ 63 : Int) ∨ S > (2 ^ 63 : Int) - 1
  · simp only [if_pos hov]
    rfl
  · simp only [if_neg hov]
    by_cases hg : Tagged.len (toU64 S) > origLen ∧ ¬ (force ≠ 0)
    · simp only [if_pos hg]
      rfl
    · simp only [if_neg hg, Bridge.Tagged.taggedPut64_stores _ hu]
      rfl

/-- `varintTaggedAddNoGrow` = the model with `force = false`; `varintTaggedAddGrow` = the model with `force = true` -/
theorem taggedAddNoGrow_eq (bs : List Nat) (hb : ∀ b ∈ bs, b < 256) (stored origLen : Nat)
    (hget : Tagged.get bs = .ok stored origLen) (amount : Int) :
    taggedAddNoGrow (Bridge.Tagged.bufOf bs) amount =
      ((Tagged.add stored origLen amount false).1, storesOf (Tagged.add stored origLen amount false).2) := by
  unfold taggedAddNoGrow
  have hz : (if ((if ((0 : Int) ≠ 0) then 1 else 0) ≠ 0) then 1 else 0) = 0 := by decide
  simp only [Bits.rdw_nil, Nat.zero_add]
  rw [hz, taggedAdd_eq bs hb stored origLen hget amount 0]
  rfl

theorem taggedAddGrow_eq (bs : List Nat) (hb : ∀ b ∈ bs, b < 256) (stored origLen : Nat)
    (hget : Tagged.get bs = .ok stored origLen) (amount : Int) :
    taggedAddGrow (Bridge.Tagged.bufOf bs) amount =
      ((Tagged.add stored origLen amount true).1, storesOf (Tagged.add stored origLen amount true).2) := by
  unfold taggedAddGrow
  have hz : (if ((if ((1 : Int) ≠ 0) then 1 else 0) ≠ 0) then 1 else 0) = 1 := by decide
  simp only [Bits.rdw_nil, Nat.zero_add]
  rw [hz, taggedAdd_eq bs hb stored origLen hget amount 1]
  rfl

end Varint.Bridge.TaggedAdd
