import Varint.Gen.CCSimple
import Varint.Lemmas.Chained
import Varint.Bridge.Loop
import Varint.Bridge.Tagged
/-
  Bridge: src/varintChainedSimple.c as translated by tools/c2lean2.py from the CURRENT source (loops included)
  equals the hand-written model Varint.ChainedSimple.* for every sufficient fuel: Encode64 for every value, Length
  for every 64-bit value, Decode64 on every buffer the model decodes (`dec bs = some …`). The 32-bit forms are in
  Bridge/W32.lean.
-/
namespace Varint.Bridge.CSimple
open Varint Varint.Gen.C Varint.Bridge

/-- `x | 0x80` stored into a byte -/
theorem or128_byte (x : Nat) : (x ||| 128) % 2 ^ 8 = x % 128 + 128 := by
  -- x % 256 is bit 7 (0 or 128) plus the low seven bits; or-ing 128 sets bit 7
  have hr : x % 128 < 2 ^ 7 := Nat.mod_lt _ (by decide)
  have hx : x % 2 ^ 8 = 2 ^ 7 * (x / 128 % 2) + x % 128 := by omega
  have h7 : ∀ q, q = 0 ∨ q = 1 → 2 ^ 7 * q ||| 2 ^ 7 * 1 = 2 ^ 7 * 1 := by
    rintro q (rfl | rfl) <;> rfl
  rw [Nat.or_mod_two_pow, hx, Nat.two_pow_add_eq_or_of_lt hr, Nat.or_assoc, Nat.or_comm (x % 128), ← Nat.or_assoc,
    show 128 % 2 ^ 8 = 2 ^ 7 * 1 from rfl, h7 _ (Nat.mod_two_eq_zero_or_one _), ← Nat.two_pow_add_eq_or_of_lt hr]
  omega

theorem or128 (x : Nat) : ((x % 128) ||| 128) % 2 ^ 8 = x % 128 + 128 := by
  rw [or128_byte, Nat.mod_mod]

/-- the loop of `varintChainedSimpleEncode64`, from any state the model can be in -/
theorem encode_loop (m : Nat) : ∀ (f i v : Nat) (ws : List (Nat × Nat)), m + i = 9 → i ≤ 8 → m ≤ f →
    ∃ i' v', i' ≤ 8 ∧ csEncode64_loop1 f (i, v, ws) = .done (i', v', ws ++ storesFrom i ((ChainedSimple.encAux m i v).dropLast))
      ∧ i' = i + (ChainedSimple.encAux m i v).length - 1
      ∧ [v' % 256] = (ChainedSimple.encAux m i v).drop ((ChainedSimple.encAux m i v).length - 1) := by
  induction m with
  | zero => intro f i v ws h h8 _; omega
  | succ m ih =>
    intro f i v ws hmi h8 hf
    obtain ⟨f, rfl⟩ : ∃ g, f = g + 1 := ⟨f - 1, by omega⟩
    unfold csEncode64_loop1
    unfold ChainedSimple.encAux
    by_cases c : v ≥ 128 ∧ i < 8
    · have c' : (v ≥ 128) ∧ (((i : Nat) : Int) - ((0 : Nat) : Int)) < (8 : Int) := ⟨c.1, by omega⟩
      rw [if_pos c', if_pos c]
      simp only []
      obtain ⟨i', v', h0, h1, h2, h3⟩ := ih f (i + 1) (v / 2 ^ 7) (ws ++ [(i, ((v % 128) ||| 128) % 2 ^ 8)]) (by omega) (by omega) (by omega)
      have hne := ChainedSimple.encAux_length_pos m (i + 1) (v / 128)
      refine ⟨i', v', h0, ?_, ?_, ?_⟩
      · rw [h1, or128, List.dropLast_cons_of_ne_nil (List.ne_nil_of_length_pos hne)]
        simp [List.append_assoc]
      · simp only [List.length_cons]
        simp only [Nat.reducePow] at h2
        omega
      · simp only [Nat.reducePow] at h3
        rw [h3]
        simp only [List.length_cons]
        rw [show (ChainedSimple.encAux m (i + 1) (v / 128)).length + 1 - 1 =
              ((ChainedSimple.encAux m (i + 1) (v / 128)).length - 1) + 1 by omega]
        rfl
    · have c' : ¬ ((v ≥ 128) ∧ (((i : Nat) : Int) - ((0 : Nat) : Int)) < (8 : Int)) := by
        intro h; exact c ⟨h.1, by omega⟩
      rw [if_neg c', if_neg c]
      exact ⟨i, v, h8, by simp, by simp, by simp⟩

/-- `varintChainedSimpleEncode64(p, v)`: for every value and every fuel ≥ 9 the C returns the model's length and
    stores exactly the model's bytes at p[0], p[1], … in this order -/
theorem csEncode64_eq (v fuel : Nat) (hf : 9 ≤ fuel) :
    csEncode64 fuel v = some ((ChainedSimple.enc v).length, storesFrom 0 (ChainedSimple.enc v)) := by
  unfold csEncode64
  obtain ⟨i', v', h0, h1, h2, h3⟩ := encode_loop 9 fuel 0 v [] (by omega) (by omega) hf
  rw [h1]
  simp only [List.nil_append]
  have hlen := ChainedSimple.encAux_length_pos 9 0 v
  have hsplit : ChainedSimple.enc v = (ChainedSimple.enc v).dropLast ++ [v' % 256] := by
    unfold ChainedSimple.enc
    rw [h3]
    rw [List.dropLast_eq_take]
    exact (List.take_append_drop _ _).symm
  have hl2 : (ChainedSimple.enc v).dropLast.length = i' := by
    unfold ChainedSimple.enc
    simp only [List.length_dropLast]; omega
  congr 1
  refine Prod.ext ?_ ?_
  · simp only []
    have : (ChainedSimple.enc v).length = i' + 1 := by
      unfold ChainedSimple.enc; omega
    rw [this]; omega
  · simp only []
    conv => rhs; rw [hsplit, storesFrom_append, hl2]
    simp [ChainedSimple.enc]

/-- the loop `while (v >>= 7) i++` counts base-128 digits; `varintChainedSimpleLength` and
    `varintChainedVarintLen` each have a copy, which satisfies `hloop` by `rfl` -/
theorem len7_loop_of_unfold {ρ : Type} (loop : Nat → Nat × Nat → LoopR (Nat × Nat) ρ)
    (hloop : ∀ f v i, loop (f + 1) (v, i) =
      if v / 2 ^ 7 ≠ 0 then loop f (v / 2 ^ 7, (i + 1) % 2 ^ 32) else .done (v / 2 ^ 7, i)) :
    ∀ (f v i : Nat), len7 v ≤ f → i + len7 v < 2 ^ 32 → loop f (v, i) = .done (0, i + len7 v - 1) := by
  intro f
  induction f with
  | zero => intro v i h; have := len7_pos v; omega
  | succ f ih =>
    intro v i hf hi
    rw [len7_eq] at hf hi ⊢
    rw [hloop]
    simp only [Nat.reducePow]
    by_cases c : v < 128
    · have h0 : v / 128 = 0 := by omega
      rw [if_pos c, h0, if_neg (by simp), Nat.add_sub_cancel]
    · rw [if_neg c] at hf hi ⊢
      have hp := len7_pos (v / 128)
      rw [if_pos (by omega), Nat.mod_eq_of_lt (by omega), ih (v / 128) (i + 1) (by omega) (by omega)]
      congr 2
      omega

/-- `varintChainedSimpleLength(v)` for every 64-bit value and every fuel ≥ 10 -/
theorem csLength_eq (v fuel : Nat) (hv : v < 2 ^ 64) (hf : 10 ≤ fuel) :
    csLength fuel v = some (ChainedSimple.len v) := by
  have h10 : len7 v ≤ 10 := len7_le_of_lt (by omega) (by
    calc v < 2 ^ 64 := hv
      _ ≤ 128 ^ 10 := by decide)
  unfold csLength ChainedSimple.len
  simp only []
  rw [len7_loop_of_unfold csLength_loop1 (fun _ _ _ => rfl) fuel v 1 (by omega) (by omega)]
  simp only []
  have hp := len7_pos v
  rw [show 1 + len7 v - 1 = len7 v by omega]

/-- the continuation test `holder & 0x80` reads bit 7 -/
theorem and128 : ∀ b, b < 256 → ((b &&& 128 ≠ 0) ↔ b ≥ 128) := by
  intro b hb
  have h : b &&& 128 = (b / 2 ^ 7 &&& 128 / 2 ^ 7) * 2 ^ 7 + (b % 2 ^ 7 &&& 128 % 2 ^ 7) := by
    rw [← Nat.and_div_two_pow, ← Nat.and_mod_two_pow]
    exact (Nat.div_add_mod' _ _).symm
  have h1 : b / 2 ^ 7 &&& 1 = b / 2 ^ 7 % 2 := Nat.and_two_pow_sub_one_eq_mod _ 1
  rw [h, show 128 / 2 ^ 7 = 1 from rfl, show 128 % 2 ^ 7 = 0 from rfl, Nat.and_zero, h1]
  omega

theorem or_disj (acc x k : Nat) (ha : acc < 2 ^ k) : acc ||| (x * 2 ^ k) = acc + x * 2 ^ k := by
  rw [Nat.or_comm, Bridge.Tagged.or_eq_add (x * 2 ^ k) acc k (Nat.mul_mod_left _ _) ha, Nat.add_comm]

/-- the loop of `varintChainedSimpleDecode64` on a buffer that holds `bs` from position `i` on -/
theorem decode_loop : ∀ (mf f i acc : Nat) (bs : List Nat) (p : Nat → Nat) (vopt : Option Nat) (val n : Nat),
    (∀ k, k < bs.length → p (i + k) = bs[k]?.getD 0) → (∀ b ∈ bs, b < 256) → i ≤ 8 → acc < 2 ^ (7 * i) →
    mf + i ≤ f + i → mf ≤ f →
    ChainedSimple.decAux mf i acc bs = some (val, n) →
    csDecode64_loop1 p f (7 * i, i, p i, acc, vopt) = .ret (n, some val) := by
  intro mf
  induction mf with
  | zero => intro f i acc bs p vopt val n _ _ _ _ _ _ h; simp [ChainedSimple.decAux] at h
  | succ mf ih =>
    intro f i acc bs p vopt val n hp hb hi hacc _ hf h
    obtain ⟨f, rfl⟩ : ∃ g, f = g + 1 := ⟨f - 1, by omega⟩
    cases bs with
    | nil => simp [ChainedSimple.decAux] at h
    | cons b rest =>
      have hpi : p i = b := by simpa using hp 0 (by simp)
      have hb256 : b < 256 := hb b (by simp)
      unfold ChainedSimple.decAux at h
      unfold csDecode64_loop1
      have hs : ((7 * i : Nat) : Int) ≤ (63 : Int) := by omega
      rw [if_pos hs]
      simp only [Int.toNat_natCast, hpi]
      by_cases c : b ≥ 128 ∧ i < 8
      · rw [if_pos c] at h
        have c' : (b &&& 128 ≠ 0) ∧ (((i : Nat) : Int) - ((0 : Nat) : Int)) < (8 : Int) :=
          ⟨(and128 b hb256).2 c.1, by omega⟩
        rw [if_pos c']
        have hlt : b % 128 * 2 ^ (7 * i) < 2 ^ 64 := by
          calc b % 128 * 2 ^ (7 * i) < 2 ^ 7 * 2 ^ (7 * i) :=
                Nat.mul_lt_mul_of_pos_right (by omega) (Nat.two_pow_pos _)
            _ = 2 ^ (7 + 7 * i) := by rw [Nat.pow_add]
            _ ≤ 2 ^ 64 := Nat.pow_le_pow_right (by omega) (by omega)
        rw [Nat.mod_eq_of_lt hlt, or_disj acc (b % 128) (7 * i) hacc]
        have hsh : (((((7 * i : Nat) : Int) + (7 : Int))) % (2 ^ 8 : Int)).toNat = 7 * (i + 1) := by omega
        rw [hsh]
        refine ih f (i + 1) _ rest p vopt val n ?_ ?_ (by omega) ?_ (by omega) (by omega) h
        · intro k hk
          have := hp (k + 1) (by simp; omega)
          simpa [Nat.add_assoc, Nat.add_comm 1 k] using this
        · intro x hx; exact hb x (by simp [hx])
        · calc acc + b % 128 * 2 ^ (7 * i) < 2 ^ (7 * i) + 127 * 2 ^ (7 * i) := by
                have : b % 128 * 2 ^ (7 * i) ≤ 127 * 2 ^ (7 * i) := Nat.mul_le_mul_right _ (by omega)
                omega
            _ = 2 ^ (7 * (i + 1)) := by rw [Nat.mul_add, Nat.pow_add]; omega
      · rw [if_neg c] at h
        have c' : ¬ ((b &&& 128 ≠ 0) ∧ (((i : Nat) : Int) - ((0 : Nat) : Int)) < (8 : Int)) := by
          intro hh; exact c ⟨(and128 b hb256).1 hh.1, by omega⟩
        rw [if_neg c']
        simp only [Option.some.injEq, Prod.mk.injEq] at h
        have hlt : b * 2 ^ (7 * i) < 2 ^ 64 := by
          by_cases h8 : i = 8
          · subst h8
            calc b * 2 ^ (7 * 8) < 2 ^ 8 * 2 ^ (7 * 8) := Nat.mul_lt_mul_of_pos_right (by omega) (Nat.two_pow_pos _)
              _ = 2 ^ 64 := by decide
          · have hb7 : b < 2 ^ 7 := by omega
            calc b * 2 ^ (7 * i) < 2 ^ 7 * 2 ^ (7 * i) := Nat.mul_lt_mul_of_pos_right hb7 (Nat.two_pow_pos _)
              _ = 2 ^ (7 + 7 * i) := by rw [Nat.pow_add]
              _ ≤ 2 ^ 64 := Nat.pow_le_pow_right (by omega) (by omega)
        rw [Nat.mod_eq_of_lt hlt, or_disj acc b (7 * i) hacc, h.1]
        congr 2
        omega

/-- `varintChainedSimpleDecode64(p, &v)` on a buffer holding the bytes `bs`: whenever the model decodes
    (it only fails on input that ends inside the varint) the C returns the model's length and stores its value -/
theorem csDecode64_eq (bs : List Nat) (fuel val n : Nat) (hb : ∀ b ∈ bs, b < 256) (hf : 10 ≤ fuel)
    (h : ChainedSimple.dec bs = some (val, n)) :
    csDecode64 fuel (Bridge.Tagged.bufOf bs) = some (n, some val) := by
  unfold csDecode64
  simp only []
  have := decode_loop 10 fuel 0 0 bs (Bridge.Tagged.bufOf bs) none val n
    (by intro k _; simp [Bridge.Tagged.bufOf, List.getD_eq_getElem?_getD]) hb (by omega) (by simp) (by omega) hf h
  simp only [Nat.mul_zero] at this
  rw [this]
