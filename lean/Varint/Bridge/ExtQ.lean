import Varint.Gen.CExtQ
import Varint.Model.External
import Varint.Lemmas.Bytes
import Varint.Bridge.Loop
import Varint.Bridge.External
/-
  Bridge: the statement macros `varintExternalPutFixedWidthQuick_` and `varintExternalGetQuick_` of
  src/varintExternal.h (inline arms for 1, 2 and 3 bytes, the function otherwise), expanded by clang inside
  harness/vw_ext.c and translated from the CURRENT header, have exactly the effect / result of the functions
  `varintExternalPutFixedWidth` / `varintExternalGet`: the model's little-endian slice, for every width 1..8.
-/
namespace Varint.Bridge.ExtQ
open Varint Varint.Gen.C Varint.Bridge Varint.Bridge.External
open Varint.Bridge.Tagged (bufOf bufOf_lt)

theorem extPutFixedQuick_stores (lo hi w : Nat) (h1 : 1 ≤ w) (h8 : w ≤ 8) :
    extPutFixedQuick lo hi w = leStores (lo ||| hi) w := by
  unfold extPutFixedQuick
  simp only []
  generalize lo ||| hi = v
  by_cases c : w = 1 ∨ w = 3 ∨ w = 2
  · -- the inline arms store the same bytes, written with constant shifts and a redundant `(uint8_t)` cast
    rcases c with rfl | rfl | rfl <;>
      simp only [leStores, copyOrder, Nat.reduceEqDiff, if_true, if_false, List.range, List.range.loop, List.reverse,
        List.reverseAux, List.map, Nat.reducePow, Nat.reduceMul, Nat.mod_mod, Nat.div_one]
  · rw [if_neg (by omega), if_neg (by omega), if_neg (by omega)]
    exact extPutFixedWidth_stores v w h1 h8

/-- **`varintExternalPutFixedWidthQuick_(dst, lo | hi, w)`**: the argument expression is evaluated as a whole (macro
    hygiene) and the bytes left are the little-endian bytes of its value -/
theorem extPutFixedQuick_eq (lo hi w : Nat) (h1 : 1 ≤ w) (h8 : w ≤ 8) :
    Writes (extPutFixedQuick lo hi w) (External.encFixed (lo ||| hi) w) := by
  rw [extPutFixedQuick_stores lo hi w h1 h8]
  exact writes_leStores _ w

/-- **`varintExternalGetQuick_(p, w, r)`** on a buffer of bytes: the little-endian value of p[0 … w-1] -/
theorem extGetQuick_eq (bs : List Nat) (hb : ∀ b ∈ bs, b < 256) (w : Nat) (h1 : 1 ≤ w) (h8 : w ≤ 8)
    (hin : w ≤ bs.length) : extGetQuick (bufOf bs) w = ofLe (bs.take w) := by
  have := External.getQuick_eq bs hb 0 w h1 h8 (by omega)
  simp only [Nat.zero_add, List.drop_zero] at this
  unfold extGetQuick
  simp only []
  exact this

end Varint.Bridge.ExtQ
