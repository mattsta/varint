import Varint.Gen.CFORDec
import Varint.Model.FOR
import Varint.Bridge.Loop
import Varint.Bridge.Tagged
import Varint.Bridge.External
import Varint.Bridge.TaggedAdd
import Varint.Lemmas.FOR
import Varint.Lemmas.Tagged
/-
  Bridge: the readers of src/varintFOR.c — varintFORReadMetadata (local struct filled through `&meta`),
  varintFORGetMinValue / GetCount / GetOffsetWidth, varintFORGetAt, varintFORDecode (element loop around the inlined
  `varintExternalGetQuick_` macro), varintFORBatchDecode and varintFORDecodeBlock, as translated by tools/c2lean2.py from the CURRENT source — equal the hand-written
  model Varint.FOR.* on every byte buffer the model reads inside of.
-/
namespace Varint.Bridge.FORDec
open Varint Varint.Gen.C Varint.Bridge Varint.FOR
open Varint.Bridge.Tagged (bufOf bufOf_lt)

/-- a value the tagged reader returns from bytes is a 64-bit value: at most 8 payload bytes -/
theorem get_val_lt (bs : List Nat) (hb : ∀ b ∈ bs, b < 256) (v l : Nat) (h : Tagged.get bs = .ok v l) : v < 2 ^ 64 := by
  obtain ⟨-, ha⟩ := Tagged.getN_ok h
  cases ha with
  | one rest h1 => omega
  | two b1 rest h1 h2 =>
    have := hb b1 (by simp)
    omega
  | three b1 b2 rest =>
    have := hb b1 (by simp)
    have := hb b2 (by simp)
    simp only [ofBe, List.length]
    omega
  | @wide k p rest hp h3 h8 =>
    have := ofBe_lt p (fun b hm => hb b (by simp [hm]))
    rw [hp] at this
    have : (256 : Nat) ^ k ≤ 256 ^ 8 := Nat.pow_le_pow_right (by omega) h8
    omega

/-- the header as the C reads it -/
theorem readHdr_parts (bs : List Nat) (h : Hdr) (hh : readHdr bs = some h) :
    ∃ rest, Tagged.get bs = .ok h.minValue h.minLen ∧ bs.drop h.minLen = h.width :: rest ∧
      Tagged.get rest = .ok h.count h.countLen := by
  unfold readHdr at hh
  split at hh
  · rename_i mn l1 h1
    split at hh
    · cases hh
    · rename_i w rest h2
      split at hh
      · rename_i cnt l2 h3
        cases hh
        exact ⟨rest, h1, h2, h3⟩
      · cases hh
  · cases hh

/-- what the C's two tagged reads and its load of the width byte return on a buffer whose header the model reads;
    both values come out of at most 8 payload bytes, so they are 64-bit -/
theorem hdr_reads (bs : List Nat) (hb : ∀ b ∈ bs, b < 256) (h : Hdr) (hh : readHdr bs = some h) :
    taggedGet64 (bufOf bs) = (h.minLen, some h.minValue) ∧ bufOf bs h.minLen = h.width ∧
    taggedGet64 (fun i => bufOf bs (h.minLen + 1 + i)) = (h.countLen, some h.count) ∧
    h.minValue < 2 ^ 64 ∧ h.count < 2 ^ 64 := by
  obtain ⟨rest, h1, h2, h3⟩ := readHdr_parts bs h hh
  have hrest : bs.drop (h.minLen + 1) = rest := by
    rw [← List.drop_drop, h2]; rfl
  have hbr : ∀ b ∈ rest, b < 256 := by rw [← hrest]; exact Tagged.mem_drop_lt bs hb _
  refine ⟨TaggedAdd.taggedGet64_ok bs hb _ _ h1, (Tagged.walk_cons bs _ _ _ h2).2.1, ?_, get_val_lt bs hb _ _ h1,
    get_val_lt rest hbr _ _ h3⟩
  rw [Tagged.bufOf_shift, hrest]
  exact TaggedAdd.taggedGet64_ok rest hbr _ _ h3

/-- **`varintFORReadMetadata(src, &meta)`**: minimum, count and offset width as the model reads them -/
theorem forReadMetadata_eq (bs : List Nat) (hb : ∀ b ∈ bs, b < 256) (h : Hdr) (hh : readHdr bs = some h) :
    ∃ sz, forReadMetadata (bufOf bs) = (some h.minValue, some h.count, some h.width, some 0, some h.minValue, some sz) := by
  obtain ⟨r1, r2, r3, _, _⟩ := hdr_reads bs hb h hh
  unfold forReadMetadata
  simp only [r1, r2, r3, Option.getD_some]
  exact ⟨_, rfl⟩

/-- the accessors tell the truth about the header -/
theorem forAccessors_eq (bs : List Nat) (hb : ∀ b ∈ bs, b < 256) (h : Hdr) (hh : readHdr bs = some h) :
    forGetMinValue (bufOf bs) = h.minValue ∧ forGetCount (bufOf bs) = h.count ∧
    forGetOffsetWidth (bufOf bs) = h.width := by
  obtain ⟨r1, r2, r3, _, _⟩ := hdr_reads bs hb h hh
  unfold forGetMinValue forGetCount forGetOffsetWidth
  simp only [r1, r2, r3, Option.getD_some, and_self]

/-- the element loop of `varintFORDecode` -/
theorem decode_loop (bs : List Nat) (hb : ∀ b ∈ bs, b < 256) (mn cnt w : Nat) (h1 : 1 ≤ w) (h8 : w ≤ 8)
    (hcnt : cnt < 2 ^ 64) :
    ∀ (n i ptr : Nat) (st : List (Nat × Nat)) (vs : List Nat), i + n = cnt →
      readOffsets n mn w (bs.drop ptr) = some vs → ∀ fuel, n < fuel →
      forDecode_loop1 (bufOf bs) mn cnt w fuel (i, ptr, st) = .done (cnt, ptr + n * w, st ++ storesFrom i vs) := by
  intro n
  induction n with
  | zero =>
    intro i ptr st vs hi hr fuel hf
    obtain ⟨f, rfl⟩ : ∃ f', fuel = f' + 1 := ⟨fuel - 1, by omega⟩
    simp [readOffsets] at hr
    subst hr
    have c : ¬ i < cnt := by omega
    have : i = cnt := by omega
    subst this
    simp [forDecode_loop1]
  | succ n ih =>
    intro i ptr st vs hi hr fuel hf
    obtain ⟨f, rfl⟩ : ∃ f', fuel = f' + 1 := ⟨fuel - 1, by omega⟩
    have c : i < cnt := by omega
    unfold readOffsets at hr
    split at hr
    · cases hr
    rename_i p hp
    split at hr
    · cases hr
    rename_i vs' hr'
    cases hr
    obtain ⟨hpe, hple, _⟩ := takeExact_some hp
    have hin : ptr + w ≤ bs.length := by rw [List.length_drop] at hple; omega
    rw [List.drop_drop] at hr'
    have e1 : (i + 1) % 2 ^ 64 = i + 1 := Nat.mod_eq_of_lt (by omega)
    simp only [forDecode_loop1, if_pos c, e1]
    rw [External.getQuick_eq bs hb ptr w h1 h8 hin, ← hpe, ih (i + 1) (ptr + w) _ vs' (by omega) hr' f (by omega)]
    simp only [storesFrom_cons, List.append_assoc, List.singleton_append]
    have e2 : ptr + w + n * w = ptr + (n + 1) * w := by rw [Nat.succ_mul]; omega
    rw [e2]

/-- `varintFORDecodeBlock` runs the element loop of `varintFORDecode`, bounded by the block size instead of the count -/
theorem blockLoop_eq (src : Nat → Nat) (mn w n : Nat) :
    ∀ fuel s, forDecodeBlock_loop1 src mn w n fuel s = forDecode_loop1 src mn n w fuel s := by
  intro fuel
  induction fuel with
  | zero => intro s; rfl
  | succ f ih => intro s; simp only [forDecodeBlock_loop1, forDecode_loop1, ih]

/-- **`varintFORBatchDecode`** (scalar build: header check, then `varintFORDecode`): on a buffer with a readable header it returns
    what `varintFORDecode` returns (`hd`), given that this is `(0, [])` when the count exceeds the capacity (`hgt`) -/
theorem forBatchDecode_eq (bs : List Nat) (hb : ∀ b ∈ bs, b < 256) (cap fuel : Nat) (h : Hdr) (hh : readHdr bs = some h)
    (r : Nat × List (Nat × Nat)) (hd : forDecode fuel (bufOf bs) cap = some r) (hgt : h.count > cap → r = (0, [])) :
    forBatchDecode fuel (bufOf bs) cap = some r := by
  obtain ⟨sz, hmeta⟩ := forReadMetadata_eq bs hb h hh
  unfold forBatchDecode
  simp only [hmeta, Option.getD_some, hd]
  by_cases c : h.count > cap
  · rw [if_pos c, hgt c]
  · rw [if_neg c]

/-- **`varintFORDecodeBlock(src, values, start, blockSize)`** = the model's block reader: nothing when `start` is past
    the end, otherwise exactly values[0 … n-1] with n = min(blockSize, count - start) ≤ blockSize -/
theorem forDecodeBlock_eq (bs : List Nat) (hb : ∀ b ∈ bs, b < 256) (start bsz fuel : Nat) (h : Hdr)
    (hh : readHdr bs = some h) (hsum : start + bsz < 2 ^ 64) (hsw : start * h.width < 2 ^ 64) (hf : bsz < fuel)
    (vs : List Nat) (hd : FOR.decBlock bs start bsz = some vs) :
    forDecodeBlock fuel (bufOf bs) start bsz = some (vs.length, storesFrom 0 vs) ∧ vs.length ≤ bsz := by
  obtain ⟨sz, hmeta⟩ := forReadMetadata_eq bs hb h hh
  obtain ⟨_, _, _, hmn, hcn⟩ := hdr_reads bs hb h hh
  unfold forDecodeBlock
  unfold FOR.decBlock at hd
  simp only [hmeta, hh, Option.getD_some] at hd ⊢
  by_cases c : start ≥ h.count
  · rw [if_pos c] at hd ⊢
    simp only [Option.some.injEq] at hd
    subst hd
    simp
  · rw [if_neg c] at hd ⊢
    by_cases cw : h.width < 1 ∨ h.width > 8
    · rw [if_pos cw] at hd; simp at hd
    · rw [if_neg cw] at hd
      try simp only [] at hd
      have e1 : (start + bsz) % 2 ^ 64 = start + bsz := Nat.mod_eq_of_lt hsum
      have e2 : (h.count + 2 ^ 64 - start) % 2 ^ 64 = h.count - start := by omega
      simp only [e1, e2]
      generalize hn : (if start + bsz > h.count then h.count - start else bsz) = n at hd ⊢
      have hnb : n ≤ bsz := by rw [← hn]; split <;> omega
      have hl := readOffsets_length _ _ _ _ _ hd
      rw [Tagged.taggedLen_eq _ hmn, Tagged.taggedLen_eq _ hcn, Nat.mod_eq_of_lt hsw]
      rw [blockLoop_eq, decode_loop bs hb h.minValue n h.width (by omega) (by omega) (by omega) n 0 _ [] vs (by omega) hd
        fuel (by omega)]
      simp only [List.nil_append]
      exact ⟨by rw [hl], by omega⟩

/-- **`varintFORDecode(src, values, maxCount)`** on every byte buffer the model reads inside of: a declared count above
    the capacity returns 0 with no store at all; otherwise the C returns the count and stores exactly the model's values
    at values[0 … count-1], in order and nowhere else. Every fuel above the count. -/
theorem forDecode_eq (bs : List Nat) (hb : ∀ b ∈ bs, b < 256) (cap : Nat) (fuel : Nat) (h : Hdr)
    (hh : readHdr bs = some h) (hf : h.count < fuel) :
    (FOR.dec bs cap = some none → forDecode fuel (bufOf bs) cap = some (0, [])) ∧
    (∀ vs, FOR.dec bs cap = some (some vs) →
      forDecode fuel (bufOf bs) cap = some (vs.length, storesFrom 0 vs) ∧ vs.length = h.count ∧ vs.length ≤ cap) := by
  obtain ⟨sz, hmeta⟩ := forReadMetadata_eq bs hb h hh
  obtain ⟨_, _, _, hmn, hcn⟩ := hdr_reads bs hb h hh
  unfold forDecode FOR.dec
  simp only [hmeta, hh, Option.getD_some]
  by_cases c : h.count > cap
  · rw [if_pos c, if_pos c]
    exact ⟨fun _ => rfl, nofun⟩
  · rw [if_neg c, if_neg c, Tagged.taggedLen_eq _ hmn, Tagged.taggedLen_eq _ hcn]
    by_cases cw : h.width < 1 ∨ h.width > 8
    · rw [if_pos cw]
      by_cases c0 : h.count = 0
      · rw [if_pos c0]
        refine ⟨nofun, fun vs hd => ?_⟩
        cases hd
        obtain ⟨f, rfl⟩ : ∃ f', fuel = f' + 1 := ⟨fuel - 1, by omega⟩
        simp [forDecode_loop1, c0]
      · rw [if_neg c0]
        exact ⟨nofun, nofun⟩
    · rw [if_neg cw]
      cases hr : readOffsets h.count h.minValue h.width (bs.drop (Tagged.len h.minValue + 1 + Tagged.len h.count)) with
      | none => exact ⟨nofun, nofun⟩
      | some vs' =>
        refine ⟨nofun, fun vs hd => ?_⟩
        cases hd
        have hl := readOffsets_length _ _ _ _ _ hr
        rw [decode_loop bs hb h.minValue h.count h.width (by omega) (by omega) hcn h.count 0 _ [] vs' (by omega) hr
          fuel hf]
        exact ⟨by rw [List.nil_append, hl], hl, by omega⟩

/-- **`varintFORGetAt(src, i)`** = the model's random access (offset width 1..8, the element's bytes inside the buffer) -/
theorem forGetAt_eq (bs : List Nat) (hb : ∀ b ∈ bs, b < 256) (i v : Nat) (h : Hdr) (hh : readHdr bs = some h)
    (hi : i * h.width < 2 ^ 64) (hg : FOR.getAt bs i = some v) : forGetAt (bufOf bs) i = v := by
  obtain ⟨sz, hmeta⟩ := forReadMetadata_eq bs hb h hh
  obtain ⟨_, _, _, hmn, hcn⟩ := hdr_reads bs hb h hh
  unfold forGetAt
  unfold FOR.getAt at hg
  simp only [hmeta, hh, Option.getD_some] at hg ⊢
  by_cases cw : h.width < 1 ∨ h.width > 8
  · rw [if_pos cw] at hg; simp at hg
  · rw [if_neg cw] at hg
    split at hg
    · cases hg
    rename_i p hp
    cases hg
    obtain ⟨hpe, hple, _⟩ := takeExact_some hp
    rw [List.length_drop] at hple
    rw [Tagged.taggedLen_eq _ hmn, Tagged.taggedLen_eq _ hcn, Nat.mod_eq_of_lt hi,
      External.getQuick_eq bs hb _ h.width (by omega) (by omega) (by omega), ← hpe]

theorem offsets_lt (mn w : Nat) (xs : List Nat) : ∀ b ∈ offsets mn w xs, b < 256 := by
  induction xs with
  | nil => intro b hb; simp [offsets] at hb
  | cons x xs ih =>
    intro b hb
    simp only [offsets, List.mem_append] at hb
    rcases hb with hb | hb
    · exact leBytes_lt _ _ b hb
    · exact ih b hb

/-- every byte the model's encoder produces is a byte -/
theorem enc_lt (xs : List Nat) (g : FOR.Good xs) : ∀ b ∈ FOR.enc xs, b < 256 := by
  obtain ⟨hmn, hc, hw1, hw8, _⟩ := FOR.analyze_facts xs g
  intro b hb
  unfold FOR.enc at hb
  simp only [List.mem_append, List.mem_singleton] at hb
  rcases hb with ((hb | hb) | hb) | hb
  · exact Tagged.enc_lt _ b hb
  · subst hb; omega
  · exact Tagged.enc_lt _ b hb
  · exact offsets_lt _ _ _ b hb

end Varint.Bridge.FORDec
