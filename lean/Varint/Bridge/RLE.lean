import Varint.Gen.CRLE
import Varint.Model.RLE
import Varint.Lemmas.RLE
import Varint.Bridge.Loop
import Varint.Bridge.Tagged
import Varint.Model.Bounded
import Varint.Lemmas.Bounded
import Varint.Lemmas.Fuel
/-
  Bridge: src/varintRLE.c (varintRLEAnalyze with varintRLESize and varintRLEIsBeneficial, varintRLEEncode,
  varintRLEEncodeWithHeader, varintRLEGetRunCount), as translated by
  tools/c2lean2.py from the CURRENT source — loops, pointer walk and calls to the tagged encoder included —
  equals the hand-written model Varint.RLE.* for every array of 64-bit values shorter than 2^60 (Encode,
  EncodeWithHeader) or 2^59 (Analyze, Size, IsBeneficial) and every sufficient fuel; GetRunCount equals
  `Bounded.runCount` where that reports a count, on buffers shorter than 2^63.
-/
namespace Varint.Bridge.RLE
open Varint Varint.Gen.C Varint.Bridge Varint.RLE

theorem taggedPut64_stores (x : Nat) (hx : x < 2 ^ 64) :
    taggedPut64 x = ((Tagged.enc x).length, storesFrom 0 (Tagged.enc x)) := by
  rw [Bridge.Tagged.taggedPut64_stores x hx, Tagged.enc_length]

/-- one pass of the loop of `varintRLEEncode` (which runs once more at `i = count` to flush the last run): the run
    under way grows, or is written out and a new one begins -/
theorem encode_step (values : Nat → Nat) (count f i L ptr rn cur : Nat) (ws : List (Nat × Nat)) (h : i ≤ count)
    (hL : L < 2 ^ 64) (hcur : cur < 2 ^ 64) :
    rleEncode_loop1 values count (f + 1) (i, L, ptr, rn, cur, ws) =
      if i < count ∧ values i = cur then
        rleEncode_loop1 values count f ((i + 1) % 2 ^ 64, (L + 1) % 2 ^ 64, ptr, rn, cur, ws)
      else
        rleEncode_loop1 values count f ((i + 1) % 2 ^ 64, if i < count then 1 else L,
          ptr + (Tagged.enc L ++ Tagged.enc cur).length, (rn + 1) % 2 ^ 64, if i < count then values i else cur,
          ws ++ storesFrom ptr (Tagged.enc L ++ Tagged.enc cur)) := by
  rw [rleEncode_loop1, if_pos h]
  by_cases c : i < count ∧ values i = cur
  · rw [if_pos c, if_pos c]
  · rw [if_neg c, if_neg c, taggedPut64_stores L hL, taggedPut64_stores cur hcur]
    by_cases c2 : i < count
    · simp only [if_pos c2, shiftW_storesFrom, Nat.add_zero, storesFrom_append, List.length_append, List.append_assoc,
        Nat.add_assoc]
    · simp only [if_neg c2, shiftW_storesFrom, Nat.add_zero, storesFrom_append, List.length_append, List.append_assoc,
        Nat.add_assoc]

/-- the loop of `varintRLEEncode` from index `i` with a pending run of `L` copies of `cur`: it appends the
    encoding of the runs of `replicate L cur ++ xs.drop i` and leaves through the loop condition -/
theorem encode_loop (xs : List Nat) (hx : ∀ x ∈ xs, x < 2 ^ 64) (hn : xs.length + 1 < 2 ^ 64) :
    ∀ (rest : List Nat) (f i L ptr rn cur : Nat) (ws : List (Nat × Nat)),
      xs.drop i = rest → i ≤ xs.length → 1 ≤ L → cur < 2 ^ 64 → rn + L + rest.length ≤ xs.length →
      rest.length + 2 ≤ f →
      ∃ L' cur', rleEncode_loop1 (Bridge.Tagged.bufOf xs) xs.length f (i, L, ptr, rn, cur, ws) =
        .done (xs.length + 1, L', ptr + (encRuns (runs (List.replicate L cur ++ rest))).length,
               rn + (runs (List.replicate L cur ++ rest)).length, cur',
               ws ++ storesFrom ptr (encRuns (runs (List.replicate L cur ++ rest)))) := by
  intro rest
  induction rest with
  | nil =>
    intro f i L ptr rn cur ws hd hi hL hcur hrn hf
    have hil : i = xs.length := by
      have := List.drop_eq_nil_iff.1 hd; omega
    subst hil
    obtain ⟨f, rfl⟩ : ∃ g, f = g + 2 := ⟨f - 2, by rw [List.length_nil] at hf; omega⟩
    rw [List.append_nil, runs_replicate L cur hL, encRuns_single,
      encode_step _ _ _ _ _ _ _ _ _ (Nat.le_refl _) (by omega) hcur, if_neg (fun c => Nat.lt_irrefl _ c.1), rleEncode_loop1,
      if_neg (by rw [Nat.mod_eq_of_lt hn]; exact Nat.not_succ_le_self _),
      Nat.mod_eq_of_lt hn, Nat.mod_eq_of_lt (show rn + 1 < 2 ^ 64 by omega)]
    exact ⟨_, _, rfl⟩
  | cons x rest ih =>
    intro f i L ptr rn cur ws hd hi hL hcur hrn hf
    rw [List.length_cons] at hrn hf
    obtain ⟨f, rfl⟩ := Nat.exists_eq_succ_of_ne_zero (show f ≠ 0 by omega)
    obtain ⟨hil, hxi, hd', hm⟩ := Bridge.Tagged.walk_cons xs i x rest hd
    rw [encode_step _ _ _ _ _ _ _ _ _ hi (by omega) hcur, hxi, Nat.mod_eq_of_lt (show i + 1 < 2 ^ 64 by omega)]
    by_cases c : x = cur
    · subst c
      rw [if_pos ⟨hil, rfl⟩, Nat.mod_eq_of_lt (show L + 1 < 2 ^ 64 by omega), replicate_snoc_cons]
      exact ih f (i + 1) (L + 1) ptr rn x ws hd' hil (by omega) hcur (by omega) (by omega)
    · rw [if_neg (fun h => c h.2), if_pos hil, if_pos hil, Nat.mod_eq_of_lt (show rn + 1 < 2 ^ 64 by omega)]
      obtain ⟨L', cur', h⟩ := ih f (i + 1) 1 (ptr + (Tagged.enc L ++ Tagged.enc cur).length) (rn + 1) x
        (ws ++ storesFrom ptr (Tagged.enc L ++ Tagged.enc cur)) hd' hil (Nat.le_refl 1) (hx x hm) (by omega) (by omega)
      refine ⟨L', cur', ?_⟩
      rw [h, runs_replicate_append_ne L cur x rest hL c, encRuns_cons]
      simp only [List.length_append, List.length_cons, storesFrom_append, List.append_assoc, Nat.add_assoc,
        Nat.add_comm 1]

/-- **`varintRLEEncode(dst, values, count, meta)`** — for every array of 64-bit values (count < 2^60), with or
    without a metadata struct, and every fuel ≥ count + 2: the C returns the length of the model's encoding, stores
    exactly the model's bytes at dst[0], dst[1], … in increasing order (each once), and fills the struct with
    count, the number of maximal runs, the bytes written, and 0 -/
theorem rleEncode_eq (xs : List Nat) (hx : ∀ x ∈ xs, x < 2 ^ 64) (hn : xs.length < 2 ^ 60) (given : Bool)
    (fuel : Nat) (hf : xs.length + 2 ≤ fuel) :
    rleEncode fuel (Bridge.Tagged.bufOf xs) xs.length given =
      some ((RLE.enc xs).length,
            if given then some xs.length else none,
            if given then some (RLE.runCount xs) else none,
            if given then some (RLE.enc xs).length else none,
            if given then some 0 else none,
            storesFrom 0 (RLE.enc xs)) := by
  unfold rleEncode
  cases xs with
  | nil => cases given <;> simp [RLE.enc, RLE.runs, RLE.encRuns, RLE.runCount]
  | cons x0 t =>
    have hb := RLE.enc_le (x0 :: t)
    rw [List.length_cons] at hf hn hb
    obtain ⟨L', cur', h⟩ := encode_loop (x0 :: t) hx (by rw [List.length_cons]; omega) t fuel 1 1 0 0 x0 [] rfl
      (by simp) (by omega) (hx x0 (by simp)) (by rw [List.length_cons]; omega) (by omega)
    rw [if_neg (by simp)]
    simp only [show Bridge.Tagged.bufOf (x0 :: t) 0 = x0 from rfl]
    rw [h]
    simp only [show List.replicate 1 x0 ++ t = x0 :: t from rfl,
      show encRuns (runs (x0 :: t)) = RLE.enc (x0 :: t) from rfl, List.nil_append, Nat.zero_add,
      toNat_sub_zero_mod _ (show (RLE.enc (x0 :: t)).length < 2 ^ 64 by omega)]
    cases given <;> simp [RLE.runCount]


theorem encRuns_cons_length (l v : Nat) (rs : List (Nat × Nat)) :
    (encRuns ((l, v) :: rs)).length = Tagged.len l + Tagged.len v + (encRuns rs).length := by
  rw [encRuns_cons, List.length_append, List.length_append, Tagged.enc_length, Tagged.enc_length, Nat.add_assoc]

/-- `encodedSize += varintTaggedLen(len) + varintTaggedLen(val)` does not wrap -/
theorem account_run (es L cur : Nat) (hL : L < 2 ^ 64) (hcur : cur < 2 ^ 64) (hes : es + 18 < 2 ^ 64) :
    ((es + taggedLen L) % 2 ^ 64 + taggedLen cur) % 2 ^ 64 = es + Tagged.len L + Tagged.len cur := by
  have hl1 := Tagged.len_bounds L
  have hl2 := Tagged.len_bounds cur
  rw [Bridge.Tagged.taggedLen_eq L hL, Bridge.Tagged.taggedLen_eq cur hcur, Nat.mod_eq_of_lt (by omega),
    Nat.mod_eq_of_lt (by omega)]

/-- one pass of the loop of `varintRLEAnalyze`: the run under way grows, or is accounted for and a new one begins -/
theorem analyze_step (values : Nat → Nat) (count f i L es rn cur uq : Nat) (h : i < count) :
    rleAnalyze_loop1 values count (f + 1) (i, L, es, rn, cur, uq) =
      if values i = cur then rleAnalyze_loop1 values count f ((i + 1) % 2 ^ 64, (L + 1) % 2 ^ 64, es, rn, cur, uq)
      else rleAnalyze_loop1 values count f ((i + 1) % 2 ^ 64, 1,
        ((es + taggedLen L) % 2 ^ 64 + taggedLen cur) % 2 ^ 64, (rn + 1) % 2 ^ 64, values i, (uq + 1) % 2 ^ 64) := by
  rw [rleAnalyze_loop1, if_pos h]
  by_cases c : values i = cur
  · rw [if_pos c, if_pos c]
  · rw [if_neg c, if_neg c]

theorem analyze_loop (xs : List Nat) (hx : ∀ x ∈ xs, x < 2 ^ 64) (hn : xs.length < 2 ^ 59) :
    ∀ (rest : List Nat) (f i L es rn cur uq : Nat),
      xs.drop i = rest → i ≤ xs.length → 1 ≤ L → cur < 2 ^ 64 → L + rest.length ≤ xs.length →
      es ≤ 18 * i → rn ≤ i → uq ≤ i → rest.length + 1 ≤ f →
      ∃ L' es' rn' cur' uq', rleAnalyze_loop1 (Bridge.Tagged.bufOf xs) xs.length f (i, L, es, rn, cur, uq) =
          .done (xs.length, L', es', rn', cur', uq') ∧
        L' < 2 ^ 64 ∧ cur' < 2 ^ 64 ∧
        es' + Tagged.len L' + Tagged.len cur' = es + (encRuns (runs (List.replicate L cur ++ rest))).length ∧
        es' ≤ 18 * xs.length ∧
        rn' + 1 = rn + (runs (List.replicate L cur ++ rest)).length ∧
        uq' + 1 = uq + (runs (List.replicate L cur ++ rest)).length := by
  intro rest
  induction rest with
  | nil =>
    intro f i L es rn cur uq hd hi hL hcur hLr hes hrn huq hf
    have hil : i = xs.length := by
      have := List.drop_eq_nil_iff.1 hd; omega
    subst hil
    obtain ⟨f, rfl⟩ := Nat.exists_eq_succ_of_ne_zero (show f ≠ 0 by omega)
    rw [List.append_nil, runs_replicate L cur hL, encRuns_cons_length]
    refine ⟨L, es, rn, cur, uq, ?_, by rw [List.length_nil] at hLr; omega, hcur,
      by simp [encRuns, Nat.add_assoc], hes, rfl, rfl⟩
    rw [rleAnalyze_loop1, if_neg (Nat.lt_irrefl _)]
  | cons x rest ih =>
    intro f i L es rn cur uq hd hi hL hcur hLr hes hrn huq hf
    rw [List.length_cons] at hLr hf
    obtain ⟨f, rfl⟩ := Nat.exists_eq_succ_of_ne_zero (show f ≠ 0 by omega)
    obtain ⟨hil, hxi, hd', hm⟩ := Bridge.Tagged.walk_cons xs i x rest hd
    rw [analyze_step _ _ _ _ _ _ _ _ _ hil, hxi, Nat.mod_eq_of_lt (show i + 1 < 2 ^ 64 by omega)]
    by_cases c : x = cur
    · subst c
      rw [if_pos rfl, Nat.mod_eq_of_lt (show L + 1 < 2 ^ 64 by omega), replicate_snoc_cons]
      exact ih f (i + 1) (L + 1) es rn x uq hd' (by omega) (by omega) hcur (by omega) (by omega) (by omega) (by omega)
        (by omega)
    · have hl1 := Tagged.len_bounds L
      have hl2 := Tagged.len_bounds cur
      rw [if_neg c, account_run es L cur (by omega) hcur (by omega),
        Nat.mod_eq_of_lt (show rn + 1 < 2 ^ 64 by omega), Nat.mod_eq_of_lt (show uq + 1 < 2 ^ 64 by omega),
        runs_replicate_append_ne L cur x rest hL c, encRuns_cons_length, List.length_cons]
      obtain ⟨L', es', rn', cur', uq', h, r1, r2, r3, r4, r5, r6⟩ :=
        ih f (i + 1) 1 (es + Tagged.len L + Tagged.len cur) (rn + 1) x (uq + 1) hd' (by omega) (by omega) (hx x hm)
          (by omega) (by omega) (by omega) (by omega) (by omega)
      exact ⟨L', es', rn', cur', uq', h, r1, r2, by omega, r4, by omega, by omega⟩

/-- **`varintRLEAnalyze(values, count, &meta)`** (and so `varintRLESize`, `varintRLEIsBeneficial`) for every array of
    64-bit values with count < 2^59 and every fuel ≥ count + 1: the struct receives count, the number of maximal runs,
    exactly the number of bytes `varintRLEEncode` writes, and the run count again as `uniqueValues`; the return value
    says whether that size is below 8·count -/
theorem rleAnalyze_eq (xs : List Nat) (hx : ∀ x ∈ xs, x < 2 ^ 64) (hn : xs.length < 2 ^ 59)
    (fuel : Nat) (hf : xs.length + 1 ≤ fuel) :
    rleAnalyze fuel (Bridge.Tagged.bufOf xs) xs.length =
      some (if xs ≠ [] ∧ RLE.size xs < 8 * xs.length then 1 else 0,
            some xs.length, some (RLE.runCount xs), some (RLE.size xs), some (RLE.runCount xs)) := by
  unfold rleAnalyze
  cases xs with
  | nil => simp [RLE.size, RLE.runs, RLE.runCount]
  | cons x0 t =>
    rw [List.length_cons] at hf
    obtain ⟨L', es', rn', cur', uq', h, r1, r2, r3, r4, r5, r6⟩ :=
      analyze_loop (x0 :: t) hx hn t fuel 1 1 0 1 x0 1 rfl (by simp) (by omega) (hx x0 (by simp))
        (by rw [List.length_cons]; omega) (by omega) (by omega) (by omega) (by omega)
    rw [if_neg (by simp)]
    simp only [show Bridge.Tagged.bufOf (x0 :: t) 0 = x0 from rfl]
    rw [h]
    have hr : List.replicate 1 x0 ++ t = x0 :: t := rfl
    rw [hr, Nat.zero_add, ← RLE.enc, RLE.enc_length] at r3
    rw [hr, Nat.add_comm 1] at r5 r6
    simp only [account_run es' L' cur' r1 r2 (by omega), r3, Nat.add_right_cancel r5, Nat.add_right_cancel r6,
      Nat.mul_comm _ 8, Nat.mod_eq_of_lt (show 8 * (x0 :: t).length < 2 ^ 64 by omega), RLE.runCount]
    simp


open Varint.Bounded in
/-- the clamp `remaining > INT32_MAX ? INT32_MAX : (int32_t)remaining` -/
theorem avail_eq (rem : Nat) :
    (if rem > 2147483647 then (2147483647 : Int) else sx 32 rem) = ((min rem int32Max : Nat) : Int) := by
  unfold int32Max
  by_cases c : rem > 2147483647
  · rw [if_pos c, Nat.min_eq_right (by omega)]; rfl
  · rw [if_neg c, Nat.min_eq_left (by omega), sx_of_lt 32 rem (by omega)]

open Varint.Bounded in
/-- one pass of the loop of `varintRLEGetRunCount` inside the buffer, in the shape of the bounded model's `runCountAux` -/
theorem runCount_step (bs : List Nat) (hb : ∀ b ∈ bs, b < 256) (hlen : bs.length < 2 ^ 63) (fuel runs ptr : Nat)
    (hp : ptr < bs.length) :
    rleGetRunCount_loop1 (Bridge.Tagged.bufOf bs) bs.length (fuel + 1) (runs, ptr) =
      match Tagged.getN (bs.drop ptr) ((min (bs.length - ptr) int32Max : Nat) : Int) with
      | .ok runLen w1 =>
        match Tagged.getN (bs.drop (ptr + w1)) (((min (bs.length - ptr) int32Max : Nat) : Int) - (w1 : Int)) with
        | .ok _ w2 =>
          if runLen = 0 then .done (runs, ptr)
          else rleGetRunCount_loop1 (Bridge.Tagged.bufOf bs) bs.length fuel ((runs + 1) % 2 ^ 64, ptr + (w1 + w2) % 2 ^ 64)
        | _ => .done (runs, ptr)
      | _ => .done (runs, ptr) := by
  have e1 : (((((bs.length : Nat) : Int) - ((ptr : Nat) : Int))) % (2 ^ 64 : Int)).toNat = bs.length - ptr := by omega
  have hn1 : ((min (bs.length - ptr) int32Max : Nat) : Int) ≤ ((bs.drop ptr).length : Int) := by
    rw [List.length_drop]; exact Int.ofNat_le.2 (Nat.min_le_left _ _)
  rw [rleGetRunCount_loop1, if_pos hp]
  simp only [e1, avail_eq, Bridge.Tagged.bufOf_shift]
  generalize ((min (bs.length - ptr) int32Max : Nat) : Int) = n at hn1 ⊢
  rw [Bridge.Tagged.taggedGet_eq (bs.drop ptr) n (Bridge.Tagged.mem_drop_lt bs hb ptr) (getN_no_fault _ _ hn1)]
  cases hg : Tagged.getN (bs.drop ptr) n with
  | fault => exact absurd hg (getN_no_fault _ _ hn1)
  | short => rfl
  | ok runLen w1 =>
    obtain ⟨hw1a, hw1b, hw1c, -⟩ := getN_ok_spec _ _ _ _ hg
    have hn2 : n - (w1 : Int) ≤ ((bs.drop (ptr + w1)).length : Int) := by
      rw [List.length_drop] at hn1 ⊢; omega
    simp only [sx_of_lt 32 w1 (by omega), if_neg (show ¬ w1 = 0 by omega)]
    rw [Bridge.Tagged.taggedGet_eq _ _ (Bridge.Tagged.mem_drop_lt bs hb (ptr + w1)) (getN_no_fault _ _ hn2)]
    cases hg2 : Tagged.getN (bs.drop (ptr + w1)) (n - (w1 : Int)) with
    | fault => exact absurd hg2 (getN_no_fault _ _ hn2)
    | short => simp
    | ok v w2 =>
      obtain ⟨hw2a, -, -, -⟩ := getN_ok_spec _ _ _ _ hg2
      simp only [Option.getD_some, show ¬ w2 = 0 by omega, false_or]

open Varint.Bounded in
/-- the loop of `varintRLEGetRunCount` follows the bounded model from every position -/
theorem runCount_loop (bs : List Nat) (hb : ∀ b ∈ bs, b < 256) (hlen : bs.length < 2 ^ 63) :
    ∀ (mf fuel ptr runs r : Nat), ptr ≤ bs.length → bs.length - ptr < mf → mf ≤ fuel →
      runs + (bs.length - ptr) < 2 ^ 64 →
      runCountAux mf (bs.drop ptr) (bs.length - ptr) = .ok r →
      ∃ p', rleGetRunCount_loop1 (Bridge.Tagged.bufOf bs) bs.length fuel (runs, ptr) = .done (runs + r, p') := by
  intro mf
  induction mf with
  | zero => intro fuel ptr runs r _ h; omega
  | succ mf ih =>
    intro fuel ptr runs r hp hmf hfu hru h
    obtain ⟨fuel, rfl⟩ := Nat.exists_eq_succ_of_ne_zero (show fuel ≠ 0 by omega)
    rw [runCountAux] at h
    by_cases c0 : bs.length - ptr = 0
    · rw [if_pos c0, R.ok.injEq] at h
      subst h
      exact ⟨ptr, by unfold rleGetRunCount_loop1; rw [if_neg (by omega)]; rfl⟩
    · rw [if_neg c0] at h
      rw [runCount_step bs hb hlen fuel runs ptr (by omega)]
      have hmin : ((min (bs.length - ptr) int32Max : Nat) : Int) ≤ ((bs.length - ptr : Nat) : Int) :=
        Int.ofNat_le.2 (Nat.min_le_left _ _)
      generalize ((min (bs.length - ptr) int32Max : Nat) : Int) = n at hmin h ⊢
      cases hg : Tagged.getN (bs.drop ptr) n with
      | fault => simp [hg] at h
      | short =>
        simp only [hg, R.ok.injEq] at h ⊢
        exact ⟨ptr, by rw [← h]; rfl⟩
      | ok runLen w1 =>
        simp only [hg, List.drop_drop] at h ⊢
        cases hg2 : Tagged.getN (bs.drop (ptr + w1)) (n - (w1 : Int)) with
        | fault => simp [hg2] at h
        | short =>
          simp only [hg2, R.ok.injEq] at h ⊢
          exact ⟨ptr, by rw [← h]; rfl⟩
        | ok v w2 =>
          simp only [hg2] at h ⊢
          by_cases hz : runLen = 0
          · rw [if_pos hz, R.ok.injEq] at h
            exact ⟨ptr, by rw [if_pos hz, ← h]; rfl⟩
          · obtain ⟨hw1p, hw1, -, -⟩ := getN_ok_spec _ _ _ _ hg
            obtain ⟨hw2p, hw2, -, -⟩ := getN_ok_spec _ _ _ _ hg2
            rw [if_neg hz, show bs.length - ptr - (w1 + w2) = bs.length - (ptr + (w1 + w2)) by omega] at h
            rw [if_neg hz, Nat.mod_eq_of_lt (show runs + 1 < 2 ^ 64 by omega),
              Nat.mod_eq_of_lt (show w1 + w2 < 2 ^ 64 by omega)]
            cases hrec : runCountAux mf (bs.drop (ptr + (w1 + w2))) (bs.length - (ptr + (w1 + w2))) with
            | fault => simp [hrec] at h
            | err => simp [hrec] at h
            | ok r' =>
              simp only [hrec, R.ok.injEq] at h
              obtain ⟨p', hp'⟩ := ih fuel (ptr + (w1 + w2)) (runs + 1) r' (by omega) (by omega) (by omega) (by omega) hrec
              exact ⟨p', by rw [hp', ← h, Nat.add_assoc, Nat.add_comm 1]⟩
open Varint.Bounded in
/-- **`varintRLEGetRunCount(src, encodedSize)`** on fewer than 2^63 bytes of any content (hostile, truncated, corrupt): the
    C returns the count the bounded model returns (`Bounded.runCount bs = .ok r`) — and that model provably never loads a byte at or beyond `encodedSize`
    (`Props.C14.rle_count_reads_lt_n`) — for every fuel above the input length: it terminates -/
theorem rleGetRunCount_eq (bs : List Nat) (hb : ∀ b ∈ bs, b < 256) (hlen : bs.length < 2 ^ 63) (fuel : Nat)
    (hf : bs.length < fuel) (r : Nat) (h : Bounded.runCount bs = R.ok r) :
    rleGetRunCount fuel (Bridge.Tagged.bufOf bs) bs.length = some r := by
  unfold rleGetRunCount
  simp only []
  have h' : runCountAux (bs.length + 1) (bs.drop 0) (bs.length - 0) = .ok r := by simpa [Bounded.runCount] using h
  obtain ⟨p', hp'⟩ := runCount_loop bs hb hlen (bs.length + 1) fuel 0 0 r (by omega) (by omega) (by omega) (by omega) h'
  rw [hp']
  simp


/-- **`varintRLEEncodeWithHeader`**: the tagged count, then the body, at consecutive indices; the struct's
    encodedSize is overwritten with the total -/
theorem rleEncodeWithHeader_eq (xs : List Nat) (hx : ∀ x ∈ xs, x < 2 ^ 64) (hn : xs.length < 2 ^ 60) (given : Bool)
    (fuel : Nat) (hf : xs.length + 2 ≤ fuel) :
    rleEncodeWithHeader fuel (Bridge.Tagged.bufOf xs) xs.length given =
      some ((RLE.encH xs).length,
            if given then some (RLE.encH xs).length else none,
            if given then some xs.length else none,
            if given then some (RLE.runCount xs) else none,
            if given then some 0 else none,
            storesFrom 0 (RLE.encH xs)) := by
  unfold rleEncodeWithHeader
  have hb := RLE.enc_le xs
  have hl := Tagged.len_bounds xs.length
  rw [rleEncode_eq xs hx hn given fuel hf, taggedPut64_stores xs.length (by omega)]
  simp only [shiftW_storesFrom, Nat.add_zero,
    toNat_sub_zero_mod _ (show (Tagged.enc xs.length).length + (RLE.enc xs).length < 2 ^ 64 by
      rw [Tagged.enc_length]; omega)]
  cases given <;> simp [RLE.encH, storesFrom_append]


/-- **`varintRLESize(values, n)`** (analysis into a local struct, then its `encodedSize`) = the model's size -/
theorem rleSize_eq (xs : List Nat) (hx : ∀ x ∈ xs, x < 2 ^ 64) (hn : xs.length < 2 ^ 59)
    (fuel : Nat) (hf : xs.length + 1 ≤ fuel) :
    rleSize fuel (Bridge.Tagged.bufOf xs) xs.length = some (RLE.size xs) := by
  unfold rleSize
  rw [rleAnalyze_eq xs hx hn fuel hf]
  rfl

/-- **`varintRLEIsBeneficial(values, n)`**: true exactly when the encoding is smaller than the raw 8·n bytes -/
theorem rleIsBeneficial_eq (xs : List Nat) (hx : ∀ x ∈ xs, x < 2 ^ 64) (hn : xs.length < 2 ^ 59)
    (fuel : Nat) (hf : xs.length + 1 ≤ fuel) :
    rleIsBeneficial fuel (Bridge.Tagged.bufOf xs) xs.length =
      some (if xs ≠ [] ∧ RLE.size xs < 8 * xs.length then 1 else 0) := by
  unfold rleIsBeneficial
  rw [rleAnalyze_eq xs hx hn fuel hf]
  simp only []
  split <;> simp

end Varint.Bridge.RLE
