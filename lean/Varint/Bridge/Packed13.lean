import Varint.Gen.CPacked13
import Varint.Bridge.Packed
/-
  Bridge: a second instantiation of src/varintPacked.h, 13-bit values in uint32_t slots (`varintPacked13*`, generated
  by the preprocessor in harness/vw_packed.c and machine-translated from the CURRENT header). 13 does not divide 32:
  elements start at every bit offset of a slot, so both the one-slot and the two-slot path are taken at every
  alignment. The translation satisfies the same equations as the default instantiation, with 13 for the width, so
  everything proved of `Packed.Inst` holds of it.
-/
namespace Varint.Bridge.Packed13
open Varint Varint.Gen.C Varint.Bridge Varint.BF Varint.Bridge.Bits Varint.Packed Varint.Bridge.Packed

theorem inst13 : Inst 13 packed13Get packed13Set packed13SetIncr packed13SetHalf packed13BinarySearch_loop1
    packed13BinarySearch packed13Member packed13Insert_loop1 packed13Insert packed13InsertSorted packed13Delete_loop1
    packed13Delete packed13DeleteMember where
  hb1 := by omega
  hb16 := by omega
  get_def := fun _ _ => rfl
  set_def := fun _ _ _ => rfl
  setIncr_def := fun _ _ _ => rfl
  setHalf_def := fun _ _ => rfl
  bsLoop_succ := fun _ _ _ _ _ => rfl
  bsearch_def := fun _ _ _ _ => rfl
  member_def := fun _ _ _ _ => rfl
  insLoop_succ := fun _ _ _ _ _ => rfl
  insert_def := fun _ _ _ _ _ => rfl
  insertSorted_def := fun _ _ _ _ => rfl
  delLoop_succ := fun _ _ _ _ _ => rfl
  delete_def := fun _ _ _ _ => rfl
  deleteMember_def := fun _ _ _ _ => rfl

theorem bsearch_loop (ws : List Nat) (hws : WordsOK 32 ws) (v : Nat) :
    ∀ n lo hi, hi - lo ≤ n → hi < 2 ^ 32 → ∀ f g, n < f → n < g →
      ∃ mx, packed13BinarySearch_loop1 (memOf ws) v f (lo, hi) = .done (bsearchAux 32 13 ws v g lo hi, mx) :=
  fun _ lo hi h hhi f g hf hg =>
    inst13.bsearch_loop hws v f g lo hi (Nat.lt_of_le_of_lt h hf) (Nat.lt_of_le_of_lt h hg) hhi

/-- **`varintPacked13BinarySearch(src, len, v)`** = the model's lower-bound search, every length below 2^32, every fuel
    above the length -/
theorem packed13BinarySearch_eq (ws : List Nat) (hws : WordsOK 32 ws) (len v : Nat) (hlen : len < 2 ^ 32)
    (fuel : Nat) (hf : len < fuel) :
    packed13BinarySearch fuel (memOf ws) len v = some (Packed.bsearch 32 13 ws len v) :=
  inst13.bsearch_eq hws len v hlen fuel hf

end Varint.Bridge.Packed13
