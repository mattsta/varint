import Varint.Bridge.SplitArms
/-
  Bridge: the statement macros of src/varintSplit.h (varintSplitLength_, varintSplitPut_, varintSplitGet_,
  varintSplitGetLen_), expanded by clang inside the wrapper functions of harness/vw_split.c and translated by
  tools/c2lean2.py from the CURRENT headers, equal the model Varint.Split.S.* for every 64-bit value.
-/
namespace Varint.Bridge.Split
open Varint Varint.Gen.C Varint.Bridge Varint.Bridge.External
open Varint.Bridge.Tagged (bufOf)

/-- the length both macros compute from the width loop's count -/
theorem lenC_eq (v : Nat) (hv : v < 2 ^ 64) :
    (1 + (extLen (v - 16446))) % 2 ^ 32 % 2 ^ 8 = Split.lenVar 16446 1 v := by
  have h8 := extLen_le_8 (show v - 16446 < 2 ^ 64 by omega)
  have h1 := extLen_pos (v - 16446)
  rw [Split.lenVar_eq]
  unfold Split.varW
  split
  · omega
  · omega

/-- **`varintSplitLength_`** for every 64-bit value, every fuel ≥ 8 -/
theorem splitLength_eq (v fuel : Nat) (hv : v < 2 ^ 64) (hf : 8 ≤ fuel) :
    splitLength fuel v = some (Split.S.len v) := by
  unfold splitLength Split.S.len
  simp only []
  split
  · rfl
  split
  · rfl
  · have hu : (v + 2 ^ 64 - 16446) % 2 ^ 64 = v - 16446 := by omega
    have h8 := extLen_le_8 (show v - 16446 < 2 ^ 64 by omega)
    rw [hu, width_loop_one splitLength_loop1 (fun _ _ _ => rfl) fuel _ (by omega) (by omega)]
    simp only [lenC_eq v hv]

/-- **`varintSplitPut_(dst, len, v)`** for every 64-bit value and every fuel ≥ 8: `len` is the model's length, the memory
    left at dst[0 … len-1] is the model's encoding, each byte stored once and nothing beyond -/
theorem splitPut_eq (v fuel : Nat) (hv : v < 2 ^ 64) (hf : 8 ≤ fuel) :
    ∃ stores, splitPut fuel v = some (Split.S.len v, stores) ∧ Writes stores (Split.S.enc v) := by
  unfold splitPut Split.S.len Split.S.enc
  simp only []
  by_cases c1 : v ≤ 63
  · rw [if_pos c1, if_pos c1, if_pos c1]
    exact ⟨_, rfl, putLevel0_writes 0 v v rfl (by omega)⟩
  rw [if_neg c1, if_neg c1, if_neg c1]
  by_cases c2 : v ≤ 16446
  · rw [if_pos c2, if_pos c2, if_pos c2]
    exact ⟨_, rfl, putLevel1_writes 64 63 v _ (by omega) rfl (by omega)⟩
  rw [if_neg c2, if_neg c2, if_neg c2]
  have hu : (v + 2 ^ 64 - 16446) % 2 ^ 64 = v - 16446 := by omega
  have h8 := extLen_le_8 (show v - 16446 < 2 ^ 64 by omega)
  obtain ⟨hw1, hw8, _⟩ := Split.varW_bounds 16446 1 v hv (by omega)
  rw [hu, width_loop_one splitPut_loop1 (fun _ _ _ => rfl) fuel _ (by omega) (by omega)]
  simp only [lenC_eq v hv, Split.lenVar_eq, Split.encVar_eq]
  generalize Split.varW 16446 1 v = w at *
  have ew := width_of_len w (by omega)
  simp only [ew]
  rw [tag_or 128 w rfl (by omega) (by omega)]
  exact ⟨_, rfl, putMedium_writes (128 + w) (v - 16446) w hw1 hw8⟩

/-- **`varintSplitGetLen_`** on the type byte -/
theorem splitGetLen_eq (p : Nat → Nat) (h0 : p 0 < 256) : splitGetLen p = Split.S.getLen (p 0) := by
  unfold splitGetLen Split.S.getLen
  simp only []
  rw [switch3 (p 0) h0, and192 (p 0) h0]
  generalize p 0 = b at *
  have e : ((1 + ((((b : Nat) : Int) - ((b / 64 * 64 : Nat) : Int)) % (2 ^ 32 : Int)).toNat) % 2 ^ 32) % 2 ^ 8
      = 1 + b % 64 := by omega
  rw [e]

/-- **`varintSplitGet_(p, len, v)`** on a buffer holding `bs`: whenever the model reads inside `bs` and the type byte is
    one an encoder produces (var widths 0..8) the C returns the model's (length, value) -/
theorem splitGet_eq (bs : List Nat) (hb : ∀ b ∈ bs, b < 256) (val n : Nat)
    (hw : ∀ b0 rest, bs = b0 :: rest → 128 ≤ b0 → b0 < 192 → b0 % 64 ≤ 8)
    (h : Split.S.dec bs = some (val, n)) :
    splitGet (Bridge.Tagged.bufOf bs) = (n, some val) := by
  cases bs with
  | nil => simp [Split.S.dec] at h
  | cons b0 rest =>
    have h0 : b0 < 256 := hb b0 (List.mem_cons_self ..)
    unfold splitGet
    simp only [show bufOf (b0 :: rest) 0 = b0 from rfl]
    rw [switch3 b0 h0, and192 b0 h0]
    have ha : (((b0 % 64 : Nat) : Int) % (2 ^ 64 : Int)).toNat = b0 % 64 := by omega
    simp only [ha]
    by_cases c1 : b0 < 64
    · rw [if_pos c1]
      rw [Split.S.dec, if_pos c1] at h
      obtain ⟨_, rfl, rfl⟩ := Split.decLevel_some h
      rw [getLevel0_eq, Nat.add_zero (b0 % 64), Nat.mod_eq_of_lt (show b0 % 64 < 2 ^ 64 by omega)]
    rw [if_neg c1]
    by_cases c2 : b0 < 128
    · rw [if_pos c2]
      rw [Split.S.dec, if_neg c1, if_pos c2] at h
      obtain ⟨hk, rfl, rfl⟩ := Split.decLevel_some h
      rw [getLevel1_eq b0 rest hb _ (by omega) hk]
    rw [if_neg c2]
    by_cases c3 : b0 < 192
    · rw [if_pos c3]
      rw [Split.S.dec, if_neg c1, if_neg c2, if_pos c3] at h
      obtain ⟨hk, hn, hv⟩ := Split.decVar_some h
      have hw8 := hw b0 rest rfl (by omega) c3
      have en : ((1 + ((((b0 : Nat) : Int) - ((b0 / 64 * 64 : Nat) : Int)) % (2 ^ 32 : Int)).toNat) % 2 ^ 32) % 2 ^ 8
          = 1 + b0 % 64 := by omega
      have ew := width_of_len (b0 % 64) (by omega)
      simp only [en, ew]
      rw [getMedium_eq b0 rest hb _ hw8 hk, hn, hv]
    · rw [if_neg c3]
      simp only [Split.S.dec] at h
      rw [if_neg c1, if_neg c2, if_neg c3] at h
      simp only [Option.some.injEq, Prod.mk.injEq] at h
      obtain ⟨rfl, rfl⟩ := h
      rfl

end Varint.Bridge.Split
