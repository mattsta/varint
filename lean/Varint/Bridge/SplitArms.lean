import Varint.Gen.CSplit
import Varint.Lemmas.Split
import Varint.Bridge.Loop
import Varint.Bridge.Tagged
import Varint.Bridge.External
import Varint.Bridge.Mem
/-
  What the statement macros of the four split headers have in common once clang has expanded them: the switch on the
  two type bits, the stores and loads of an embedded level with 1..3 extra bytes, and the inlined `varintExternalPutFixedWidthQuickMedium_` / `varintExternalGetQuickMedium_` behind
  the type byte. One lemma per shape, about any tag, offset and width.
-/
namespace Varint.Bridge.Split
open Varint Varint.Gen.C Varint.Bridge Varint.Bridge.External
open Varint.Bridge.Tagged (bufOf bufOf_lt)

/-! ### stores -/

/-- a tag in the two top bits or-ed with six value bits -/
theorem tag_or (t x : Nat) (ht : t % 64 = 0) (ht' : t < 256) (hx : x < 64) : (t ||| x) % 2 ^ 8 = t + x := by
  rw [Tagged.or_eq_add t x 6 ht hx]
  omega

/-- the stores of a one-byte level -/
theorem putLevel0_writes (sub v U : Nat) (hU : U = v - sub) (h : U < 64) :
    Writes [(0, (0 ||| U) % 2 ^ 8)] (Split.encLevel 0 0 sub v) := by
  have e : Split.encLevel 0 0 sub v = [(0 ||| U) % 2 ^ 8] := by
    rw [Split.encLevel_eq, ← hU, tag_or 0 U rfl (by omega) h, Nat.pow_zero, Nat.div_one, Nat.mod_eq_of_lt h]
    rfl
  rw [e]
  exact writes_storesFrom _

/-- the stores of a level with one extra byte -/
theorem putLevel1_writes (tag sub v U : Nat) (hU : U = v - sub) (ht : tag % 64 = 0) (ht' : tag < 256) :
    Writes [(0, (tag ||| (U / 2 ^ 8 % 64)) % 2 ^ 8), (1, U % 256 % 2 ^ 8)] (Split.encLevel tag 1 sub v) := by
  have e : Split.encLevel tag 1 sub v = [(tag ||| (U / 2 ^ 8 % 64)) % 2 ^ 8, U % 256 % 2 ^ 8] := by
    rw [tag_or tag _ ht ht' (Nat.mod_lt _ (by omega)), hU]
    simp [Split.encLevel, beBytes]
  rw [e]
  exact writes_storesFrom _

/-- the stores of a level with two extra bytes -/
theorem putLevel2_writes (tag sub v U : Nat) (hU : U = v - sub) (ht : tag % 64 = 0) (ht' : tag < 256) :
    Writes [(0, (tag ||| (U / 2 ^ 16 % 64)) % 2 ^ 8), (1, U / 2 ^ 8 % 256 % 2 ^ 8), (2, U % 256 % 2 ^ 8)]
      (Split.encLevel tag 2 sub v) := by
  have e : Split.encLevel tag 2 sub v
      = [(tag ||| (U / 2 ^ 16 % 64)) % 2 ^ 8, U / 2 ^ 8 % 256 % 2 ^ 8, U % 256 % 2 ^ 8] := by
    rw [tag_or tag _ ht ht' (Nat.mod_lt _ (by omega)), hU]
    simp [Split.encLevel, beBytes]
  rw [e]
  exact writes_storesFrom _

/-- the stores of a level with three extra bytes -/
theorem putLevel3_writes (tag sub v U : Nat) (hU : U = v - sub) (ht : tag % 64 = 0) (ht' : tag < 256) :
    Writes [(0, (tag ||| (U / 2 ^ 24 % 64)) % 2 ^ 8), (1, U / 2 ^ 16 % 256 % 2 ^ 8), (2, U / 2 ^ 8 % 256 % 2 ^ 8),
      (3, U % 256 % 2 ^ 8)] (Split.encLevel tag 3 sub v) := by
  have e : Split.encLevel tag 3 sub v
      = [(tag ||| (U / 2 ^ 24 % 64)) % 2 ^ 8, U / 2 ^ 16 % 256 % 2 ^ 8, U / 2 ^ 8 % 256 % 2 ^ 8, U % 256 % 2 ^ 8] := by
    rw [tag_or tag _ ht ht' (Nat.mod_lt _ (by omega)), hU]
    simp [Split.encLevel, beBytes]
  rw [e]
  exact writes_storesFrom _

/-- the inlined `varintExternalPutFixedWidthQuickMedium_(dst + 1, u, w)` behind the type byte `t`: arms for 3 and 2
    bytes (high byte first), `varintExternalPutFixedWidth` otherwise -/
theorem putMedium_writes (t u w : Nat) (h1 : 1 ≤ w) (h8 : w ≤ 8) :
    Writes (if w = 3 then [(0, t), (3, u / 2 ^ 16 % 256 % 2 ^ 8), (2, u / 2 ^ 8 % 256 % 2 ^ 8), (1, u % 256 % 2 ^ 8)]
      else if w = 2 then [(0, t), (2, u / 2 ^ 8 % 256 % 2 ^ 8), (1, u % 256 % 2 ^ 8)]
      else [(0, t)] ++ shiftW 1 (extPutFixedWidth u w)) (t :: leBytes w u) := by
  by_cases w3 : w = 3
  · subst w3
    rw [if_pos rfl, le3]
    refine ⟨?_, rfl, by simp, by simp⟩
    simp [applyStores]
    omega
  rw [if_neg w3]
  by_cases w2 : w = 2
  · subst w2
    rw [if_pos rfl, le2]
    refine ⟨?_, rfl, by simp, by simp⟩
    simp [applyStores]
  rw [if_neg w2]
  exact writes_cons t _ _ (extPutFixedWidth_eq u w h1 h8)

/-! ### loads -/

theorem and192 (b : Nat) (hb : b < 256) : b &&& 192 = b / 64 * 64 := by
  have h1 : (b &&& 192) % 2 ^ 6 = 0 := by
    rw [Nat.and_mod_two_pow]
    simp
  have h2 : (b &&& 192) / 2 ^ 6 = b / 64 := by
    rw [← Nat.shiftRight_eq_div_pow, Nat.shiftRight_and_distrib, Nat.shiftRight_eq_div_pow]
    show b / 64 &&& 3 = b / 64
    rw [show (3 : Nat) = 2 ^ 2 - 1 from rfl, Nat.and_two_pow_sub_one_eq_mod, Nat.mod_eq_of_lt (by omega)]
  omega

/-- `len = 1 + width` in the C's mixed `uint8_t` / `int` arithmetic -/
theorem len_of_width (w : Nat) (hw : w < 64) :
    ((1 + (((w : Nat) : Int) % (2 ^ 32 : Int)).toNat) % 2 ^ 32) % 2 ^ 8 = 1 + w := by
  omega

/-- and `width = len - 1` -/
theorem width_of_len (w : Nat) (hw : w < 64) : ((((1 + w : Nat) : Int) - (1 : Int)) % (2 ^ 32 : Int)).toNat = w := by
  omega

/-- the test of the quick length macros for the var prefix `11` -/
theorem tag192_iff (b : Nat) (hb : b < 256) : (((b &&& 192 : Nat) : Int) = (192 : Int)) ↔ 192 ≤ b := by
  rw [and192 b hb]
  omega

/-- the `switch (p[0] & 0xC0)` of the readers (an if-chain after translation) as a case split on the first byte -/
theorem switch3 {α : Type} (b : Nat) (hb : b < 256) (A B C D : α) :
    (if (((b &&& 192 : Nat) : Int) = (0 : Int)) then A else if (((b &&& 192 : Nat) : Int) = (64 : Int)) then B
      else if (((b &&& 192 : Nat) : Int) = (128 : Int)) then C else D)
    = if b < 64 then A else if b < 128 then B else if b < 192 then C else D := by
  rw [and192 b hb]
  by_cases c1 : b < 64
  · rw [if_pos (by omega), if_pos c1]
  rw [if_neg (by omega), if_neg c1]
  by_cases c2 : b < 128
  · rw [if_pos (by omega), if_pos c2]
  rw [if_neg (by omega), if_neg c2]
  by_cases c3 : b < 192
  · rw [if_pos (by omega), if_pos c3]
  rw [if_neg (by omega), if_neg c3]

/-- the same with the fourth case spelt out and a default arm that is never reached -/
theorem switch4 {α : Type} (b : Nat) (hb : b < 256) (A B C D E : α) :
    (if (((b &&& 192 : Nat) : Int) = (0 : Int)) then A else if (((b &&& 192 : Nat) : Int) = (64 : Int)) then B
      else if (((b &&& 192 : Nat) : Int) = (128 : Int)) then C
      else if (((b &&& 192 : Nat) : Int) = (192 : Int)) then D else E)
    = if b < 64 then A else if b < 128 then B else if b < 192 then C else D := by
  rw [switch3 b hb]
  by_cases c3 : b < 192
  · simp only [if_pos c3]
  · have e : (((b &&& 192 : Nat) : Int) = (192 : Int)) := by rw [and192 b hb]; omega
    simp only [if_neg c3, if_pos e]

/-- the bytes after the type byte, as the reader sees them -/
theorem take_eq_bufOf (b0 : Nat) (rest : List Nat) (k : Nat) (h : k ≤ rest.length) :
    rest.take k = (List.range k).map fun i => bufOf (b0 :: rest) (1 + i) :=
  (Tagged.range_map_bufOf (b0 :: rest) 1 k (by rw [List.length_cons]; omega)).symm

theorem getLevel0_eq (a : Nat) (rest : List Nat) : a * 256 ^ 0 + ofBe (rest.take 0) = a := by
  simp [ofBe]

/-- the load of a level with one extra byte -/
theorem getLevel1_eq (b0 : Nat) (rest : List Nat) (hb : ∀ b ∈ b0 :: rest, b < 256) (a : Nat) (ha : a < 64)
    (h : 1 ≤ rest.length) :
    (a * 2 ^ 8 % 2 ^ 64) ||| bufOf (b0 :: rest) 1 = a * 256 ^ 1 + ofBe (rest.take 1) := by
  rw [Tagged.shl_or 8 (by omega) (bufOf_lt _ hb 1), take_eq_bufOf b0 rest 1 h]
  simp [List.range, List.range.loop, ofBe]

/-- the load of a level with two extra bytes -/
theorem getLevel2_eq (b0 : Nat) (rest : List Nat) (hb : ∀ b ∈ b0 :: rest, b < 256) (a : Nat) (ha : a < 64)
    (h : 2 ≤ rest.length) :
    ((a * 2 ^ 16 % 2 ^ 64) ||| (bufOf (b0 :: rest) 1 * 2 ^ 8 % 2 ^ 64)) ||| bufOf (b0 :: rest) 2
      = a * 256 ^ 2 + ofBe (rest.take 2) := by
  rw [Tagged.or3 (by omega) (bufOf_lt _ hb 1) (bufOf_lt _ hb 2), take_eq_bufOf b0 rest 2 h]
  simp [List.range, List.range.loop, ofBe]
  omega

/-- the load of a level with three extra bytes -/
theorem getLevel3_eq (b0 : Nat) (rest : List Nat) (hb : ∀ b ∈ b0 :: rest, b < 256) (a : Nat) (ha : a < 64)
    (h : 3 ≤ rest.length) :
    (((a * 2 ^ 24 % 2 ^ 64) ||| (bufOf (b0 :: rest) 1 * 2 ^ 16 % 2 ^ 64)) ||| (bufOf (b0 :: rest) 2 * 2 ^ 8 % 2 ^ 64))
      ||| bufOf (b0 :: rest) 3 = a * 256 ^ 3 + ofBe (rest.take 3) := by
  rw [Tagged.or4 (by omega) (bufOf_lt _ hb 1) (bufOf_lt _ hb 2) (bufOf_lt _ hb 3), take_eq_bufOf b0 rest 3 h]
  simp [List.range, List.range.loop, ofBe]
  omega

/-- the inlined `varintExternalGetQuickMedium_(p + 1, w, v)`: arms for 3 and 2 bytes, `varintExternalGet` otherwise -/
theorem getMedium_eq (b0 : Nat) (rest : List Nat) (hb : ∀ b ∈ b0 :: rest, b < 256) (w : Nat) (h8 : w ≤ 8)
    (hin : w ≤ rest.length) :
    (if ((((1 + w : Nat) : Int) - (1 : Int)) = (3 : Int)) then
        ((bufOf (b0 :: rest) 3 * 2 ^ 16 % 2 ^ 64) ||| (bufOf (b0 :: rest) 2 * 2 ^ 8 % 2 ^ 64)) ||| bufOf (b0 :: rest) 1
      else if ((((1 + w : Nat) : Int) - (1 : Int)) = (2 : Int)) then
        (bufOf (b0 :: rest) 2 * 2 ^ 8 % 2 ^ 64) ||| bufOf (b0 :: rest) 1
      else extGet (fun i => bufOf (b0 :: rest) (1 + i)) w) = ofLe (rest.take w) := by
  have q := bufOf_lt (b0 :: rest) hb
  rw [take_eq_bufOf b0 rest w hin]
  by_cases w3 : w = 3
  · subst w3
    rw [if_pos (by omega), Tagged.or3 (by have := q 3; omega) (q 2) (q 1)]
    simp only [List.range, List.range.loop, List.map, ofLe, Nat.add_zero, Nat.reduceAdd]
    omega
  rw [if_neg (by omega)]
  by_cases w2 : w = 2
  · subst w2
    rw [if_pos (by omega), Tagged.shl_or 8 (by have := q 2; omega) (q 1)]
    simp only [List.range, List.range.loop, List.map, ofLe, Nat.add_zero, Nat.reduceAdd]
    omega
  rw [if_neg (by omega)]
  by_cases w0 : w = 0
  · subst w0
    simp [extGet, extLoadLE, ofLe]
  · rw [extGet_eq _ w (by omega) h8 (fun i _ => q _)]

end Varint.Bridge.Split
