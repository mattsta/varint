import Varint.Gen.CTagged
import Varint.Model.Tagged
import Varint.Lemmas.Tagged
import Varint.Bridge.Loop
import Varint.Bridge.Mem
/-
  Bridge: the C functions of src/varintTagged.c, as translated by tools/c2lean.py from the CURRENT source
  (Varint.Gen.C.*), equal the hand-written model (Varint.Tagged.*) that every tagged theorem is about —
  the writers for every 64-bit value, the readers for every buffer on which the model reports no load outside
  it (`≠ .fault`). A semantic change to the C breaks one of these proofs.
-/
namespace Varint.Bridge.Tagged
open Varint Varint.Gen.C

theorem taggedLen_eq (x : Nat) (hx : x < 2 ^ 64) : taggedLen x = Tagged.len x := by
  simp only [taggedLen, Tagged.len, Nat.mod_eq_of_lt (show x / 2 ^ 32 < 2 ^ 32 by omega)]

/-- the stores of `varintTaggedPut64(p, x)` are the model's bytes at p[0], p[1], …, and it returns their number -/
theorem taggedPut64_stores (x : Nat) (hx : x < 2 ^ 64) :
    taggedPut64 x = (Tagged.len x, storesFrom 0 (Tagged.enc x)) := by
  -- once the high half is known not to wrap, the C and the model test the same conditions in the same order
  simp only [taggedPut64, Tagged.len, Tagged.enc, Nat.mod_eq_of_lt (show x / 2 ^ 32 < 2 ^ 32 by omega), beBytes,
    Nat.reducePow, Nat.div_one, List.cons_append, List.nil_append]
  -- the arms above 67823 only mention the two halves: as variables they keep the terms `split` walks small
  generalize x % 4294967296 = y
  generalize x / 4294967296 = w
  by_cases c1 : x ≤ 240
  · simp only [if_pos c1]
    exact congrArg (fun b => (1, [(0, b)])) (Nat.mod_eq_of_lt (by omega))
  simp only [if_neg c1]
  by_cases c2 : x ≤ 2287
  · simp only [if_pos c2, storesFrom, Prod.mk.injEq, List.cons.injEq, true_and, and_true]
    omega
  simp only [if_neg c2]
  by_cases c3 : x ≤ 67823
  · simp only [if_pos c3, storesFrom, Prod.mk.injEq, List.cons.injEq, true_and, and_true]
    omega
  simp only [if_neg c3]
  -- six arms, walked in step on both sides; the bytes agree term by term (in the 252 arm `w % 256 = w`)
  repeat' split
  all_goals first
    | rfl
    | (simp only [storesFrom, Prod.mk.injEq, List.cons.injEq, true_and, and_true]; omega)

/-- `varintTaggedPut64`: returns the model's length, stores exactly the model's bytes, at indices
    0, 1, …, len-1 in this order (each once, nothing else) -/
theorem taggedPut64_eq (x : Nat) (hx : x < 2 ^ 64) :
    (taggedPut64 x).1 = Tagged.len x ∧ (taggedPut64 x).2.map Prod.snd = Tagged.enc x ∧
    (taggedPut64 x).2.map Prod.fst = List.range (Tagged.len x) := by
  rw [taggedPut64_stores x hx]
  exact ⟨rfl, storesFrom_snd 0 _, by rw [storesFrom_fst, Tagged.enc_length, List.range_eq_range']⟩

/-- `varintTaggedGetLen` looks at the first byte only -/
theorem taggedGetLen_eq (z : Nat → Nat) (h : z 0 < 256) : taggedGetLen z = Tagged.getLen (z 0) := by
  unfold taggedGetLen Tagged.getLen
  repeat' split
  all_goals omega

/-- `varintTaggedPut64FixedWidth` for every width argument (0 and > 9 store nothing and return 0) -/
theorem taggedPut64FixedWidth_eq (x w : Nat) :
    (taggedPut64FixedWidth x w).2.map Prod.snd = Tagged.encFixed x w ∧
    (taggedPut64FixedWidth x w).1 = (Tagged.encFixed x w).length ∧
    (taggedPut64FixedWidth x w).2.map Prod.fst = List.range (Tagged.encFixed x w).length := by
  -- the C's `switch` and the model's `match` take the same arm for each width 0, 1, …, 9, ≥ 10
  rcases w with _ | _ | _ | _ | _ | _ | _ | _ | _ | _ | w
  all_goals simp [taggedPut64FixedWidth, Tagged.encFixed, beBytes, List.range, List.range.loop]
  all_goals omega

theorem or_eq_add (x y m : Nat) (hx : x % 2 ^ m = 0) (hy : y < 2 ^ m) : x ||| y = x + y := by
  have h := Nat.two_pow_add_eq_or_of_lt hy (x / 2 ^ m)
  rw [Nat.mul_div_cancel' (Nat.dvd_of_mod_eq_zero hx)] at h
  exact h.symm

/-- a 64-bit left shift that does not wrap, or-ed with something below the shift, is a sum -/
theorem shl_or {hi lo : Nat} (k : Nat) (hhi : hi * 2 ^ k < 2 ^ 64) (hlo : lo < 2 ^ k) :
    (hi * 2 ^ k % 2 ^ 64) ||| lo = hi * 2 ^ k + lo := by
  rw [Nat.mod_eq_of_lt hhi, Nat.mul_comm, ← Nat.two_pow_add_eq_or_of_lt hlo]

theorem or3 {a b c : Nat} (ha : a < 2 ^ 48) (hb : b < 256) (hc : c < 256) :
    ((a * 2 ^ 16 % 2 ^ 64) ||| (b * 2 ^ 8 % 2 ^ 64)) ||| c = a * 2 ^ 16 + b * 2 ^ 8 + c := by
  rw [Nat.or_assoc, shl_or 8 (by omega) (by omega), shl_or 16 (by omega) (by omega), Nat.add_assoc]

theorem or4 {a b c d : Nat} (ha : a < 2 ^ 40) (hb : b < 256) (hc : c < 256) (hd : d < 256) :
    (((a * 2 ^ 24 % 2 ^ 64) ||| (b * 2 ^ 16 % 2 ^ 64)) ||| (c * 2 ^ 8 % 2 ^ 64)) ||| d =
      a * 2 ^ 24 + b * 2 ^ 16 + c * 2 ^ 8 + d := by
  rw [Nat.or_assoc, Nat.or_assoc, shl_or 8 (by omega) (by omega), shl_or 16 (by omega) (by omega),
    shl_or 24 (by omega) (by omega)]
  omega
/-- the big-endian value of the payload bytes `z 1, …, z k` -/
def bePayload (z : Nat → Nat) : Nat → Nat
  | 0 => 0
  | k + 1 => bePayload z k * 256 + z (k + 1)

theorem bePayload_bufOf (b0 : Nat) (rest : List Nat) (k : Nat) (hk : k ≤ rest.length) :
    bePayload (bufOf (b0 :: rest)) k = ofBe (rest.take k) := by
  induction k with
  | zero => rfl
  | succ k ih =>
    rw [bePayload, ih (by omega), List.take_succ_eq_append_getElem (by omega), ofBe_concat, Nat.mul_comm,
      bufOf_getElem (b0 :: rest) (k + 1) (Nat.succ_lt_succ hk)]
    rfl

/-- `varintTaggedGet` in plain arithmetic (the bytes are `< 256`, so the shifts never wrap and the or-ed fields are
    disjoint), with the arms of the model's `getN` -/
def getF (z : Nat → Nat) (n : Int) : Nat × Option Nat :=
  if n < 1 then (0, none)
  else if z 0 ≤ 240 then (1, some (z 0))
  else if z 0 ≤ 248 then
    if n < 2 then (0, none) else (2, some ((z 0 - 241) * 256 + z 1 + 240))
  else if n < (z 0 : Int) - 246 then (0, none)
  else if z 0 = 249 then (3, some (2288 + bePayload z (z 0 - 247)))
  else if z 0 ≤ 255 then (z 0 - 246, some (bePayload z (z 0 - 247)))
  else (0, none)

theorem taggedGet_getF (z : Nat → Nat) (n : Int) (h : ∀ i, i ≤ 8 → z i < 256) : taggedGet z n = getF z n := by
  have h0 := h 0 (by omega); have h1 := h 1 (by omega); have h2 := h 2 (by omega)
  have h3 := h 3 (by omega); have h4 := h 4 (by omega); have h5 := h 5 (by omega)
  have h6 := h 6 (by omega); have h7 := h 7 (by omega); have h8 := h 8 (by omega)
  unfold taggedGet getF
  -- the C compares the promoted byte as an `int`
  simp only [show (((z 0 : Nat) : Int) ≤ 240 ↔ z 0 ≤ 240) by omega, show (((z 0 : Nat) : Int) ≤ 248 ↔ z 0 ≤ 248) by omega]
  by_cases c1 : n < 1
  · rw [if_pos c1, if_pos c1]
  rw [if_neg c1, if_neg c1]
  by_cases c2 : z 0 ≤ 240
  · rw [if_pos c2, if_pos c2]
  rw [if_neg c2, if_neg c2]
  by_cases c3 : z 0 ≤ 248
  · rw [if_pos c3, if_pos c3]
    by_cases c4 : n < 2
    · rw [if_pos c4, if_pos c4]
    rw [if_neg c4, if_neg c4]
    exact congrArg (fun v => (2, some v)) (by omega)
  rw [if_neg c3, if_neg c3]
  by_cases c5 : n < (z 0 : Int) - 246
  · rw [if_pos c5, if_pos c5]
  rw [if_neg c5, if_neg c5, or4 (a := z 1) (by omega) h2 h3 h4]
  have hz : z 0 = 249 ∨ z 0 = 250 ∨ z 0 = 251 ∨ z 0 = 252 ∨ z 0 = 253 ∨ z 0 = 254 ∨ z 0 = 255 := by omega
  rcases hz with e | e | e | e | e | e | e
  all_goals simp only [e, Int.cast_ofNat_Int, Int.reduceEq, Nat.reduceEqDiff, Nat.reduceLeDiff, ↓reduceIte, Nat.reduceSub,
    bePayload, Nat.reduceAdd]
  · exact congrArg (fun v => (3, some v)) (by omega)
  · rw [or3 (by omega) h2 h3]
    exact congrArg (fun v => (4, some v)) (by omega)
  · exact congrArg (fun v => (5, some v)) (by omega)
  · rw [shl_or 8 (by omega) h5]
    exact congrArg (fun v => (6, some v)) (by omega)
  · rw [or3 (by omega) h5 h6]
    exact congrArg (fun v => (7, some v)) (by omega)
  · rw [or4 (by omega) h5 h6 h7]
    exact congrArg (fun v => (8, some v)) (by omega)
  · rw [or4 (by omega) h6 h7 h8,
      Nat.mod_eq_of_lt (show z 5 * 2 ^ 24 + z 6 * 2 ^ 16 + z 7 * 2 ^ 8 + z 8 < 4294967296 by omega),
      shl_or 32 (by omega) (by omega)]
    exact congrArg (fun v => (9, some v)) (by omega)

theorem getF_getN (bs : List Nat) (n : Int) (hf : Tagged.getN bs n ≠ .fault) :
    getF (bufOf bs) n = (match Tagged.getN bs n with | .ok v l => (l, some v) | _ => (0, none)) := by
  unfold Tagged.getN at hf ⊢
  unfold getF
  by_cases c1 : n < 1
  · simp only [if_pos c1]
  simp only [if_neg c1] at hf ⊢
  cases bs with
  | nil => exact absurd rfl hf
  | cons b0 rest =>
    have e0 : bufOf (b0 :: rest) 0 = b0 := rfl
    simp only [e0] at hf ⊢
    by_cases c2 : b0 ≤ 240
    · simp only [if_pos c2]
    simp only [if_neg c2] at hf ⊢
    by_cases c3 : b0 ≤ 248
    · simp only [if_pos c3] at hf ⊢
      by_cases c4 : n < 2
      · simp only [if_pos c4]
      simp only [if_neg c4] at hf ⊢
      cases rest with
      | nil => exact absurd rfl hf
      | cons b1 r => rfl
    simp only [if_neg c3] at hf ⊢
    by_cases c5 : n < (b0 : Int) - 246
    · simp only [if_pos c5]
    simp only [if_neg c5, takeExact] at hf ⊢
    -- the payload, `b0 - 247` bytes, is either all there or the model faults
    by_cases hl : b0 - 247 ≤ rest.length
    · simp only [if_pos hl, bePayload_bufOf b0 rest _ hl]
      by_cases d : b0 = 249
      · simp only [if_pos d]
      simp only [if_neg d]
      by_cases d' : b0 ≤ 255
      · simp only [if_pos d']
      · simp only [if_neg d']
    · simp only [if_neg hl] at hf
      exact absurd rfl hf

/-- `varintTaggedGet(z, n, &result)` on a buffer holding the bytes `bs`: whenever the model does not report a
    load outside `bs`, the C returns the model's width and stores the model's value (nothing when 0) -/
theorem taggedGet_eq (bs : List Nat) (n : Int) (hb : ∀ b ∈ bs, b < 256) (hf : Tagged.getN bs n ≠ .fault) :
    taggedGet (bufOf bs) n = (match Tagged.getN bs n with | .ok v l => (l, some v) | _ => (0, none)) := by
  rw [taggedGet_getF (bufOf bs) n (fun i _ => bufOf_lt bs hb i)]
  exact getF_getN bs n hf

/-- `varintTaggedGet(z, 9, &result)`, which is what `varintTaggedGet64(z, &result)` calls, against `Tagged.get` -/
theorem taggedGet64_eq (bs : List Nat) (hb : ∀ b ∈ bs, b < 256) (hf : Tagged.get bs ≠ .fault) :
    taggedGet (bufOf bs) 9 = (match Tagged.get bs with | .ok v l => (l, some v) | _ => (0, none)) :=
  taggedGet_eq bs 9 hb hf

end Varint.Bridge.Tagged
