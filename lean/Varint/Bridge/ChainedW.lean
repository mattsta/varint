import Varint.Gen.CChainedW
import Varint.Model.Chained
import Varint.Lemmas.Bytes
import Varint.Lemmas.Chained
import Varint.Bridge.Loop
import Varint.Bridge.CSimple
import Varint.Bridge.External
import Varint.Lemmas.BitField
import Varint.Bridge.Mem
/-
  Bridge: the sqlite3 varint WRITER of src/varintChained.c — putVarint64 (nine-byte branch with its downward loop;
  general branch: groups staged in a local array by a do-while loop, flag cleared on buf[0], copied out reversed by a
  third loop), varintChainedPutVarint and varintChainedVarintLen — as translated by tools/c2lean2.py from the CURRENT
  source, equal the model Varint.Chained.enc / len for every 64-bit value.
-/
namespace Varint.Bridge.ChainedW
open Varint Varint.Gen.C Varint.Bridge Varint.Bridge.External

def g (u : Nat) : Nat := u % 128 + 128

theorem or128' (x : Nat) : ((x % 128) ||| 128) % 256 = x % 128 + 128 := Bridge.CSimple.or128 x

/-- stores of the downward loop: p[i] = g u, p[i-1] = g (u/128), … p[0] -/
def down : Nat → Nat → List (Nat × Nat)
  | 0, u => [(0, g u)]
  | i + 1, u => (i + 1, g u) :: down i (u / 128)

theorem loop1_run : ∀ (i f u : Nat) (ws bw : List (Nat × Nat)), i + 2 ≤ f →
    ∃ u', chainedPut64_loop1 f ((i : Int), u, ws, bw) = .done (-1, u', ws ++ down i u, bw) := by
  intro i
  induction i with
  | zero =>
    intro f u ws bw hf
    obtain ⟨f, rfl⟩ : ∃ k, f = k + 2 := ⟨f - 2, by omega⟩
    unfold chainedPut64_loop1
    simp only [Int.natCast_zero, Int.le_refl, ge_iff_le, if_true, Bridge.CSimple.or128, Int.toNat_zero]
    unfold chainedPut64_loop1
    have : ¬ ((0 : Int) - 1 ≥ 0) := by omega
    simp only [this, if_false, down, g]
    exact ⟨u / 2 ^ 7, by simp⟩
  | succ i ih =>
    intro f u ws bw hf
    obtain ⟨f, rfl⟩ : ∃ k, f = k + 1 := ⟨f - 1, by omega⟩
    unfold chainedPut64_loop1
    have hc : ((i + 1 : Nat) : Int) ≥ 0 := by omega
    rw [if_pos hc]
    simp only [Bridge.CSimple.or128]
    have e : ((i + 1 : Nat) : Int) - 1 = (i : Int) := by omega
    rw [e]
    obtain ⟨u', h⟩ := ih f (u / 2 ^ 7) (ws ++ [((((i + 1 : Nat) : Int)).toNat, u % 128 + 128)]) bw (by omega)
    refine ⟨u', ?_⟩
    rw [h]
    simp [down, g]

/-- stores of the staging loop: buf[n] = g v, buf[n+1] = g (v/128), … (k of them) -/
def up : Nat → Nat → Nat → List (Nat × Nat)
  | _, _, 0 => []
  | n, v, k + 1 => (n, g v) :: up (n + 1) (v / 128) k

theorem loop2_run : ∀ (f n v : Nat) (pw bw : List (Nat × Nat)), len7 v ≤ f →
    chainedPut64_loop2 f ((n : Int), v, pw, bw) = .done (((n + len7 v : Nat) : Int), 0, pw, bw ++ up n v (len7 v)) := by
  intro f
  induction f with
  | zero => intro n v pw bw h; have := len7_pos v; omega
  | succ f ih =>
    intro n v pw bw hf
    unfold chainedPut64_loop2
    simp only [Int.toNat_natCast, Nat.reducePow, or128']
    rw [len7_eq] at hf ⊢
    by_cases c : v < 128
    · have h0 : v / 128 = 0 := by omega
      simp only [h0, if_pos c, ne_eq, not_true_eq_false, if_false, up, g]
      simp
    · simp only [if_neg c] at hf ⊢
      have h0 : v / 128 ≠ 0 := by omega
      rw [if_pos h0]
      have e : ((n : Nat) : Int) + 1 = ((n + 1 : Nat) : Int) := by omega
      rw [e, ih (n + 1) (v / 128) pw _ (by omega)]
      have hp := len7_pos (v / 128)
      simp only [show 1 + len7 (v / 128) = len7 (v / 128) + 1 by omega, up, g]
      congr 2
      · congr 1; omega
      · simp

/-- stores of the copy-out loop: p[i] = buf[j], p[i+1] = buf[j-1], … -/
def rev (bw : List (Nat × Nat)) : Nat → Nat → List (Nat × Nat)
  | 0, i => [(i, rdw (fun _ => 0) bw 0)]
  | j + 1, i => (i, rdw (fun _ => 0) bw (j + 1)) :: rev bw j (i + 1)

theorem loop3_run (bw : List (Nat × Nat)) : ∀ (j f i : Nat) (pw : List (Nat × Nat)), j + 2 ≤ f →
    chainedPut64_loop3 f ((j : Int), (i : Int), pw, bw) = .done (-1, ((i + j + 1 : Nat) : Int), pw ++ rev bw j i, bw) := by
  intro j
  induction j with
  | zero =>
    intro f i pw hf
    obtain ⟨f, rfl⟩ : ∃ k, f = k + 2 := ⟨f - 2, by omega⟩
    unfold chainedPut64_loop3
    simp only [Int.natCast_zero, Int.le_refl, ge_iff_le, if_true, Int.toNat_zero, Int.toNat_natCast]
    unfold chainedPut64_loop3
    have : ¬ ((0 : Int) - 1 ≥ 0) := by omega
    simp only [this, if_false, rev]
    simp
  | succ j ih =>
    intro f i pw hf
    obtain ⟨f, rfl⟩ : ∃ k, f = k + 1 := ⟨f - 1, by omega⟩
    unfold chainedPut64_loop3
    have hc : ((j + 1 : Nat) : Int) ≥ 0 := by omega
    rw [if_pos hc]
    have e : ((j + 1 : Nat) : Int) - 1 = (j : Int) := by omega
    have e2 : ((i : Nat) : Int) + 1 = ((i + 1 : Nat) : Int) := by omega
    simp only [Int.toNat_natCast]
    rw [e, e2, ih f (i + 1) _ (by omega)]
    simp only [rev]
    have e3 : i + 1 + j + 1 = i + (j + 1) + 1 := by omega
    rw [e3]
    simp


/-- the top-byte test `v & 0xff00000000000000` -/
theorem and_top (v : Nat) (hv : v < 2 ^ 64) : v &&& 18374686479671623680 = v / 2 ^ 56 * 2 ^ 56 := by
  have hm : (18374686479671623680 : Nat) = BF.mask 8 <<< 56 := by decide
  rw [hm, ← Nat.shiftLeft_eq]
  apply Nat.eq_of_testBit_eq
  intro j
  rw [Nat.testBit_and, BF.testBit_mask_shift, Nat.testBit_shiftLeft, ← Nat.shiftRight_eq_div_pow,
    Nat.testBit_shiftRight]
  by_cases h1 : 56 ≤ j
  · by_cases h2 : j - 56 < 8
    · simp [h1, h2, show 56 + (j - 56) = j by omega]
    · have : v.testBit j = false :=
        Nat.testBit_lt_two_pow (Nat.lt_of_lt_of_le hv (Nat.pow_le_pow_right (by omega) (by omega)))
      simp [h1, h2, this, show 56 + (j - 56) = j by omega]
  · simp [h1]

theorem top_ne_zero_iff (v : Nat) (hv : v < 2 ^ 64) : (v &&& 18374686479671623680 ≠ 0) ↔ v / 2 ^ 56 % 256 ≠ 0 := by
  rw [and_top v hv]
  have : v / 2 ^ 56 < 256 := by omega
  constructor <;> intro h <;> omega

/-- the nine-byte branch: `p[8]` takes the low byte whole, the downward loop the eight flagged groups above it -/
theorem put64_nine (v fuel : Nat) (hv : v < 2 ^ 64) (hf : 10 ≤ fuel) (ht : v / 2 ^ 56 % 256 ≠ 0) :
    ∃ stores, chainedPut64 fuel v = some (9, stores) ∧ Writes stores (Chained.flagged 8 (v / 256) ++ [v % 256]) := by
  unfold chainedPut64
  rw [if_pos ((top_ne_zero_iff v hv).2 ht)]
  simp only []
  obtain ⟨u', h⟩ := loop1_run 7 fuel (v / 2 ^ 8) [(8, v % 2 ^ 8)] [] (by omega)
  have h7 : ((7 : Nat) : Int) = (7 : Int) := rfl
  rw [h7] at h
  rw [h]
  refine ⟨_, rfl, ?_⟩
  unfold Writes
  simp only [down, g, Chained.flagged, Nat.reducePow, List.cons_append, List.nil_append,
    Nat.div_div_eq_div_mul, Nat.reduceMul, Nat.div_one]
  refine ⟨?_, by simp, by simp, by simp⟩
  simp [applyStores]


/-- reading the staging array `buf` back through the stores of the second loop -/
theorem rdw_up (m : Nat → Nat) : ∀ (k a v j : Nat),
    rdw m (up a v k) j = if a ≤ j ∧ j < a + k then g (v / 128 ^ (j - a)) else m j
  | 0, a, v, j => by rw [if_neg (by omega)]; rfl
  | k + 1, a, v, j => by
    rw [up, rdw_cons, rdw_up _ k]
    by_cases c : j = a
    · subst c
      rw [if_neg (by omega), if_pos (by omega), if_pos (by omega), Nat.sub_self, Nat.pow_zero, Nat.div_one]
    · by_cases c2 : a + 1 ≤ j ∧ j < a + 1 + k
      · rw [if_pos c2, if_pos (by omega), show j - a = (j - (a + 1)) + 1 by omega, Nat.pow_succ,
          Nat.mul_comm, Nat.div_div_eq_div_mul]
      · rw [if_neg c2, if_neg c, if_neg (by omega)]

/-- the copy-out loop reads the staged groups from the top down: it stores the big-endian groups in order -/
theorem rev_eq (bw : List (Nat × Nat)) (v : Nat) : ∀ (j i : Nat),
    (∀ k, k ≤ j → rdw (fun _ => 0) bw k = if k = 0 then v % 128 else v / 128 ^ k % 128 + 128) →
    rev bw j i = storesFrom i (Chained.groups (j + 1) v)
  | 0, i, h => by rw [rev, h 0 (Nat.le_refl 0), if_pos rfl]; rfl
  | j + 1, i, h => by
    rw [rev, h (j + 1) (Nat.le_refl _), if_neg (by omega), rev_eq bw v j (i + 1) (fun k hk => h k (by omega))]
    rfl

/-- the general branch (`v` below `2 ^ 56`): the groups are staged low end first with the flag on every one, the
    flag of `buf[0]` is cleared, and the copy-out loop stores them top down, so `p` receives `groups` in index order -/
theorem put64_groups (v fuel : Nat) (hv : v < 2 ^ 64) (hf : 10 ≤ fuel) (ht : ¬ v / 2 ^ 56 % 256 ≠ 0)
    (h8 : len7 v ≤ 8) :
    chainedPut64 fuel v = some (len7 v, storesFrom 0 (Chained.groups (len7 v) v)) := by
  have h1 := len7_pos v
  obtain ⟨n, hn⟩ : ∃ n, len7 v = n + 1 := ⟨len7 v - 1, by omega⟩
  unfold chainedPut64
  rw [if_neg (fun h => ht ((top_ne_zero_iff v hv).1 h))]
  have hl2 := loop2_run fuel 0 v [] [] (by omega)
  rw [show ((0 : Nat) : Int) = 0 from rfl] at hl2
  simp only []
  rw [hl2]
  simp only [Nat.zero_add, List.nil_append]
  have hl3 := loop3_run (up 0 v (len7 v) ++ [(0, v % 128)]) n fuel 0 [] (by omega)
  rw [show ((0 : Nat) : Int) = 0 from rfl] at hl3
  have e0 : rdw (fun _ => 0) (up 0 v (len7 v)) 0 = v % 128 + 128 := by
    rw [rdw_up, if_pos (by omega), Nat.sub_self, Nat.pow_zero, Nat.div_one]; rfl
  have e1 : (((((v % 128 + 128) % 128 : Nat) : Int)) % (2 ^ 8 : Int)).toNat = v % 128 := by omega
  rw [e0, e1, show ((len7 v : Nat) : Int) - 1 = (n : Int) by omega, hl3]
  simp only [List.nil_append]
  rw [rev_eq _ v n 0, ← hn]
  · congr 2
    omega
  · intro k hk
    rw [rdw_append_one, rdw_up]
    by_cases c : k = 0
    · subst c; rw [if_pos rfl, if_pos rfl]
    · rw [if_neg (fun e => c e.symm), if_neg c, if_pos (by omega)]; rfl

theorem groups_length : ∀ (n v : Nat), (Chained.groups n v).length = n
  | 0, _ => rfl
  | 1, _ => rfl
  | k + 2, v => by simp [Chained.groups, groups_length (k + 1) v]

/-- **`putVarint64(p, v)`** (the general writer behind `varintChainedPutVarint`) for every 64-bit value and every
    fuel ≥ 10: the return value is the length of the model's encoding, the memory left at p[0 … n-1] is the model's bytes,
    every index below n stored exactly once (the staging array `buf` is local), nothing at or beyond n -/
theorem chainedPut64_eq (v fuel : Nat) (hv : v < 2 ^ 64) (hf : 10 ≤ fuel) :
    ∃ stores, chainedPut64 fuel v = some ((Chained.enc v).length, stores) ∧ Writes stores (Chained.enc v) := by
  unfold Chained.enc
  by_cases ht : v / 2 ^ 56 % 256 ≠ 0
  · rw [if_pos ht]
    obtain ⟨st, h1, h2⟩ := put64_nine v fuel hv hf ht
    refine ⟨st, ?_, h2⟩
    rw [h1]; simp [Chained.flagged_length]
  · rw [if_neg ht]
    have hlt : v < 2 ^ 56 := by omega
    have h8 : len7 v ≤ 8 := len7_le_of_lt (by omega) (by
      calc v < 2 ^ 56 := hlt
        _ = 128 ^ 8 := by decide)
    have h1 := len7_pos v
    rw [put64_groups v fuel hv hf ht h8, groups_length]
    exact ⟨_, rfl, Split.writes_storesFrom _⟩

/-- **`varintChainedPutVarint(p, v)`** incl. its one- and two-byte fast paths -/
theorem chainedPutVarint_eq (v fuel : Nat) (hv : v < 2 ^ 64) (hf : 10 ≤ fuel) :
    ∃ stores, chainedPutVarint fuel v = some ((Chained.enc v).length, stores) ∧ Writes stores (Chained.enc v) := by
  unfold chainedPutVarint
  by_cases c1 : v ≤ 127
  · rw [if_pos c1]
    have hl : len7 v = 1 := by rw [len7_eq, if_pos (by omega)]
    have he : Chained.enc v = [v % 128] := by
      unfold Chained.enc
      rw [if_neg (by omega), hl]; rfl
    rw [he]
    have e : (v % 128) % 2 ^ 8 = v % 128 := by omega
    simp only [e]
    refine ⟨_, rfl, ?_⟩
    unfold Writes
    simp [applyStores]
  · rw [if_neg c1]
    by_cases c2 : v ≤ 16383
    · rw [if_pos c2]
      have hl : len7 v = 2 := by
        rw [len7_eq, if_neg (by omega), len7_eq, if_pos (by omega)]
      have he : Chained.enc v = [v / 128 % 128 + 128, v % 128] := by
        unfold Chained.enc
        rw [if_neg (by omega), hl]
        simp [Chained.groups]
      rw [he]
      have e1 : (((v / 2 ^ 7) % 128) ||| 128) % 2 ^ 8 = v / 128 % 128 + 128 := by
        have := Bridge.CSimple.or128 (v / 2 ^ 7)
        simpa using this
      have e2 : (v % 128) % 2 ^ 8 = v % 128 := by omega
      simp only [e1, e2]
      refine ⟨_, rfl, ?_⟩
      unfold Writes
      simp [applyStores]
    · rw [if_neg c2]
      obtain ⟨st, h1, h2⟩ := chainedPut64_eq v fuel hv hf
      rw [h1]
      exact ⟨st, rfl, h2⟩

/-- **`varintChainedVarintLen(v)`** -/
theorem chainedVarintLen_eq (v fuel : Nat) (hv : v < 2 ^ 64) (hf : 10 ≤ fuel) :
    chainedVarintLen fuel v = some (Chained.len v) := by
  have h10 : len7 v ≤ 10 := len7_le_of_lt (by omega) (by
    calc v < 2 ^ 64 := hv
      _ ≤ 128 ^ 10 := by decide)
  unfold chainedVarintLen Chained.len
  simp only []
  rw [Bridge.CSimple.len7_loop_of_unfold chainedVarintLen_loop1 (fun _ _ _ => rfl) fuel v 1 (by omega) (by omega)]
  simp only []
  have hp := len7_pos v
  rw [show 1 + len7 v - 1 = len7 v by omega]

end Varint.Bridge.ChainedW
