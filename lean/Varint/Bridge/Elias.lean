import Varint.Gen.CElias
import Varint.Model.Elias
import Varint.Lemmas.Elias
import Varint.Bridge.Loop
/-
  Bridge: the code-length functions of src/varintElias.c — floorLog2 (shift loop), varintEliasGammaBits,
  varintEliasDeltaBits — as translated by tools/c2lean2.py from the CURRENT source, equal the model's
  `log2` / `gammaBits` / `deltaBits` for every 64-bit value ≥ 1 and every fuel ≥ 65.
-/
namespace Varint.Bridge.Elias
open Varint Varint.Gen.C Varint.Bits

theorem floorLog2_loop : ∀ (fuel v l : Nat), Nat.log2 v < fuel → l + Nat.log2 v < 2 ^ 64 →
    ∃ v', eliasFloorLog2_loop1 fuel (v, l) = .done (v', l + Nat.log2 v) := by
  intro fuel
  induction fuel with
  | zero => intro v l h; omega
  | succ f ih =>
    intro v l hf hl
    by_cases c : v > 1
    · have hs := log2_step v (by omega)
      simp only [eliasFloorLog2_loop1, if_pos c, Nat.pow_one]
      rw [Nat.mod_eq_of_lt (by omega)]
      obtain ⟨v', hv'⟩ := ih (v / 2) (l + 1) (by omega) (by omega)
      exact ⟨v', by rw [hv', hs]; congr 2; omega⟩
    · have hs := log2_small v (by omega)
      simp only [eliasFloorLog2_loop1, if_neg c]
      exact ⟨v, by rw [hs]; rfl⟩

/-- **`floorLog2(v)`** = ⌊log2 v⌋ -/
theorem eliasFloorLog2_eq (v fuel : Nat) (hv : v < 2 ^ 64) (hf : 65 ≤ fuel) :
    eliasFloorLog2 fuel v = some (log2 v) := by
  have h63 : Nat.log2 v ≤ 63 := log2_le_63 v hv
  obtain ⟨v', h⟩ := floorLog2_loop fuel v 0 (by omega) (by omega)
  unfold eliasFloorLog2 log2
  simp only [h, Nat.zero_add]

/-- **`varintEliasGammaBits`, `varintEliasDeltaBits`** = the model's code lengths, for every 64-bit value -/
theorem eliasBits_eq (v fuel : Nat) (hv : v < 2 ^ 64) (hf : 65 ≤ fuel) :
    eliasGammaBits fuel v = some (Varint.Elias.gammaBits v) ∧ eliasDeltaBits fuel v = some (Varint.Elias.deltaBits v) := by
  have h63 : log2 v ≤ 63 := log2_le_63 v hv
  have h63' : log2 (log2 v + 1) ≤ 63 := log2_le_63 _ (by omega)
  constructor
  · unfold eliasGammaBits Varint.Elias.gammaBits
    rw [eliasFloorLog2_eq v fuel hv hf]
    simp only []
    rw [Nat.mod_eq_of_lt (show 2 * log2 v < 2 ^ 64 by omega), Nat.mod_eq_of_lt (by omega)]
  · unfold eliasDeltaBits eliasGammaBits Varint.Elias.deltaBits Varint.Elias.gammaBits
    rw [eliasFloorLog2_eq v fuel hv hf]
    simp only []
    rw [Nat.mod_eq_of_lt (show log2 v + 1 < 2 ^ 64 by omega), eliasFloorLog2_eq _ fuel (by omega) hf]
    simp only []
    rw [Nat.mod_eq_of_lt (show 2 * log2 (log2 v + 1) < 2 ^ 64 by omega),
      Nat.mod_eq_of_lt (show 2 * log2 (log2 v + 1) + 1 < 2 ^ 64 by omega), Nat.mod_eq_of_lt (by omega)]

end Varint.Bridge.Elias
