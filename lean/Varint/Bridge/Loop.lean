import Varint.Gen.CPrelude
import Varint.Lemmas.Bytes
/-
  Shared by the bridges of machine-translated functions (tools/c2lean2.py). First the store lists the translation
  returns: `storesFrom`, the memory `applyStores` says they leave, and `rdw`, a read through stores still pending. Then
  what every translated loop meets: the pointer difference cast to `size_t`, sign extension of a small value, and the
  width loop. What a buffer looks like to the C (`bufOf`, `memOf`) and what a store list does to it (`Writes`) is in
  Bridge/Mem.lean.
-/
namespace Varint.Bridge
open Varint.Gen.C

/-- the stores `buf[start] = b0; buf[start+1] = b1; …` in program order -/
def storesFrom : Nat → List Nat → List (Nat × Nat)
  | _, [] => []
  | i, b :: bs => (i, b) :: storesFrom (i + 1) bs

@[simp] theorem storesFrom_nil (i : Nat) : storesFrom i [] = [] := rfl
@[simp] theorem storesFrom_cons (i b : Nat) (bs : List Nat) : storesFrom i (b :: bs) = (i, b) :: storesFrom (i + 1) bs := rfl

theorem storesFrom_append (i : Nat) (xs ys : List Nat) :
    storesFrom i (xs ++ ys) = storesFrom i xs ++ storesFrom (i + xs.length) ys := by
  induction xs generalizing i with
  | nil => simp
  | cons x xs ih => simp [ih, Nat.add_assoc, Nat.add_comm 1]

theorem storesFrom_snd (i : Nat) (bs : List Nat) : (storesFrom i bs).map Prod.snd = bs := by
  induction bs generalizing i with
  | nil => rfl
  | cons b bs ih => simp [ih]

theorem storesFrom_fst (i : Nat) (bs : List Nat) : (storesFrom i bs).map Prod.fst = List.range' i bs.length := by
  induction bs generalizing i with
  | nil => rfl
  | cons b bs ih => simp [ih, List.range'_succ]

theorem storesFrom_length (i : Nat) (bs : List Nat) : (storesFrom i bs).length = bs.length := by
  induction bs generalizing i with
  | nil => rfl
  | cons b bs ih => simp [ih]

/-- stores of a callee handed `buf + off` -/
theorem shiftW_storesFrom (off i : Nat) (bs : List Nat) : shiftW off (storesFrom i bs) = storesFrom (off + i) bs := by
  induction bs generalizing i with
  | nil => rfl
  | cons b bs ih =>
    simp only [storesFrom_cons, shiftW, List.map_cons] at ih ⊢
    rw [ih (i + 1)]
    rfl

/-- the stores `storesFrom i vs` touch only indices below `i + |vs|` -/
theorem storesFrom_fst_lt (i : Nat) (vs : List Nat) :
    ∀ p ∈ storesFrom i vs, p.1 < i + vs.length := by
  intro p hp
  have hfst : p.1 ∈ (storesFrom i vs).map Prod.fst := List.mem_map_of_mem hp
  rw [storesFrom_fst] at hfst
  have := List.mem_range'_1.mp hfst
  omega

/-- the memory after the stores: what a list of slots looks like once they have been carried out in order -/
def applyStores (ws : List Nat) (st : List (Nat × Nat)) : List Nat := st.foldl (fun w p => w.set p.1 p.2) ws

theorem applyStores_length (l : List Nat) (st : List (Nat × Nat)) : (applyStores l st).length = l.length := by
  induction st generalizing l with
  | nil => rfl
  | cons p st ih => simp only [applyStores, List.foldl_cons] at ih ⊢; rw [ih]; simp

theorem applyStores_append (l : List Nat) (s1 s2 : List (Nat × Nat)) :
    applyStores l (s1 ++ s2) = applyStores (applyStores l s1) s2 := by
  simp [applyStores, List.foldl_append]

theorem applyStores_append_left (l r : List Nat) (st : List (Nat × Nat)) (h : ∀ p ∈ st, p.1 < l.length) :
    applyStores (l ++ r) st = applyStores l st ++ r := by
  induction st generalizing l with
  | nil => rfl
  | cons p st ih =>
    simp only [applyStores, List.foldl_cons] at ih ⊢
    have hp := h p (by simp)
    rw [List.set_append_left _ _ hp]
    exact ih (l.set p.1 p.2) (fun q hq => by simpa using h q (by simp [hq]))

theorem applyStores_append_right (l r : List Nat) (st : List (Nat × Nat)) :
    applyStores (l ++ r) (shiftW l.length st) = l ++ applyStores r st := by
  induction st generalizing r with
  | nil => rfl
  | cons p st ih =>
    simp only [applyStores, shiftW, List.map_cons, List.foldl_cons] at ih ⊢
    rw [List.set_append_right _ _ (by omega), Nat.add_sub_cancel_left]
    exact ih (r.set p.1 p.2)

/-- slot `j` after storing `f i` at every index `i` of `idx` -/
theorem applyStores_map_getElem? (f : Nat → Nat) (idx ws : List Nat) (j : Nat) :
    (applyStores ws (idx.map fun i => (i, f i)))[j]? =
      if j ∈ idx ∧ j < ws.length then some (f j) else ws[j]? := by
  induction idx generalizing ws with
  | nil => simp [applyStores]
  | cons i idx ih =>
    have step : applyStores ws ((i :: idx).map fun i => (i, f i)) =
        applyStores (ws.set i (f i)) (idx.map fun i => (i, f i)) := rfl
    rw [step, ih, List.length_set, List.getElem?_set]
    by_cases hj : j ∈ idx ∧ j < ws.length
    · rw [if_pos hj, if_pos ⟨List.mem_cons_of_mem _ hj.1, hj.2⟩]
    · rw [if_neg hj]
      by_cases hi : i = j
      · subst hi
        by_cases hl : i < ws.length
        · rw [if_pos rfl, if_pos hl, if_pos ⟨List.mem_cons_self, hl⟩]
        · rw [if_pos rfl, if_neg hl, if_neg (fun c => hl c.2), List.getElem?_eq_none (by omega)]
      · have hn : ¬ (j ∈ i :: idx ∧ j < ws.length) := by
          intro h
          rcases List.mem_cons.mp h.1 with e | e
          · exact hi e.symm
          · exact hj ⟨e, h.2⟩
        rw [if_neg hi, if_neg hn]

/-- storing `f i` at every index `i < n`, each once and in any order, over any `n` slots leaves `f 0, …, f (n-1)` -/
theorem applyStores_map_perm (f : Nat → Nat) {idx : List Nat} {n : Nat} (h : idx.Perm (List.range n)) (ws : List Nat)
    (hl : ws.length = n) : applyStores ws (idx.map fun i => (i, f i)) = (List.range n).map f := by
  apply List.ext_getElem?
  intro j
  rw [applyStores_map_getElem?, hl]
  by_cases hj : j < n
  · rw [if_pos ⟨(h.mem_iff.trans List.mem_range).mpr hj, hj⟩, List.getElem?_map, List.getElem?_range hj]
    rfl
  · rw [if_neg (fun c => hj c.2), List.getElem?_eq_none (by omega), List.getElem?_eq_none (by simp; omega)]

theorem Bits.rdw_nil (m : Nat → Nat) (i : Nat) : rdw m [] i = m i := rfl

theorem rdw_cons (m : Nat → Nat) (p : Nat × Nat) (st : List (Nat × Nat)) (i : Nat) :
    rdw m (p :: st) i = rdw (fun k => if k = p.1 then p.2 else m k) st i := by
  unfold rdw
  rw [List.reverse_cons, List.find?_append]
  cases h : st.reverse.find? (fun q => q.1 = i) with
  | some q => simp
  | none =>
    by_cases c : p.1 = i
    · simp [c]
    · have c' : ¬ i = p.1 := fun e => c e.symm
      simp [c, c']

theorem rdw_append_one (m : Nat → Nat) (st : List (Nat × Nat)) (a x j : Nat) :
    rdw m (st ++ [(a, x)]) j = if a = j then x else rdw m st j := by
  unfold rdw
  rw [List.reverse_append, List.reverse_singleton, List.singleton_append, List.find?_cons]
  by_cases c : a = j
  · simp [c]
  · simp [c]

theorem rdw_other (m : Nat → Nat) (i b : Nat) : rdw m [(i, b)] (i + 1) = m (i + 1) := by
  simp [rdw]

/-- reading a local array back through the stores that filled it: inside the stored range the value stored, outside it
    what was there before -/
theorem rdw_storesFrom (m : Nat → Nat) (ws : List Nat) (k i : Nat) :
    rdw m (storesFrom k ws) i = if k ≤ i ∧ i < k + ws.length then ws.getD (i - k) 0 else m i := by
  induction ws generalizing m k with
  | nil =>
    rw [if_neg (by simp only [List.length_nil]; omega)]
    rfl
  | cons w ws ih =>
    rw [storesFrom_cons, rdw_cons, ih, List.length_cons]
    by_cases c : i = k
    · subst c
      rw [if_neg (by omega), if_pos (by omega), Nat.sub_self]
      simp
    · by_cases c2 : k + 1 ≤ i ∧ i < k + 1 + ws.length
      · rw [if_pos c2, if_pos (by omega), show i - k = (i - (k + 1)) + 1 by omega, List.getD_cons_succ]
      · rw [if_neg c2, if_neg c, if_neg (by omega)]

/-- a pointer difference `p - base` with `base` at offset 0, cast to `size_t` -/
theorem toNat_sub_zero_mod (n : Nat) (h : n < 2 ^ 64) :
    ((((n : Nat) : Int) - ((0 : Nat) : Int)) % (2 ^ 64 : Int)).toNat = n := by
  omega

/-- sign extension does nothing to a value below the sign bit -/
theorem sx_of_lt (w x : Nat) (h : 2 * x < 2 ^ w) : sx w x = (x : Int) := by
  have hp : 2 ^ w ≤ 2 * 2 ^ (w - 1) := by
    cases w with
    | zero => decide
    | succ w => rw [Nat.add_sub_cancel, Nat.pow_succ, Nat.mul_comm]; exact Nat.le_refl _
  unfold sx
  rw [Nat.mod_eq_of_lt (by omega), if_pos (by omega)]

/-- the width loop `while ((v >>= 8) != 0) width++` counts base-256 digits. The translator emits one copy of it per
    C function that contains it; each satisfies `hloop` by `rfl`. -/
theorem width_loop_of_unfold {ρ : Type} (loop : Nat → Nat × Nat → LoopR (Nat × Nat) ρ)
    (hloop : ∀ f v e, loop (f + 1) (v, e) =
      if v / 2 ^ 8 ≠ 0 then loop f (v / 2 ^ 8, (e + 1) % 2 ^ 32) else .done (v / 2 ^ 8, e)) :
    ∀ (f v e : Nat), extLen v ≤ f → e + extLen v < 2 ^ 32 → loop f (v, e) = .done (0, e + extLen v - 1) := by
  intro f
  induction f with
  | zero => intro v e h; have := extLen_pos v; omega
  | succ f ih =>
    intro v e hf he
    rw [extLen_eq] at hf he ⊢
    rw [hloop]
    simp only [Nat.reducePow]
    by_cases c : v < 256
    · have h0 : v / 256 = 0 := by omega
      rw [if_pos c, h0, if_neg (by simp), Nat.add_sub_cancel]
    · rw [if_neg c] at hf he ⊢
      have hp := extLen_pos (v / 256)
      rw [if_pos (by omega), Nat.mod_eq_of_lt (by omega), ih (v / 256) (e + 1) (by omega) (by omega)]
      congr 2
      omega

/-- the same loop entered as every caller enters it, with `width = 1` -/
theorem width_loop_one {ρ : Type} (loop : Nat → Nat × Nat → LoopR (Nat × Nat) ρ)
    (hloop : ∀ f v e, loop (f + 1) (v, e) =
      if v / 2 ^ 8 ≠ 0 then loop f (v / 2 ^ 8, (e + 1) % 2 ^ 32) else .done (v / 2 ^ 8, e))
    (f v : Nat) (hf : extLen v ≤ f) (he : 1 + extLen v < 2 ^ 32) : loop f (v, 1) = .done (0, extLen v) := by
  rw [width_loop_of_unfold loop hloop f v 1 hf he, Nat.add_sub_cancel_left]

end Varint.Bridge
