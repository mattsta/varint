import Varint.Gen.C32
import Varint.Model.Chained
import Varint.Model.Tagged
import Varint.Bridge.Loop
import Varint.Bridge.Tagged
import Varint.Bridge.CSimple
/-
  Bridge: the 32-bit convenience forms — varintTaggedPutVarint32 / varintTaggedGetVarint32 (src/varintTagged.c) and
  varintChainedSimpleEncode32 (unrolled 1–5 bytes) / varintChainedSimpleDecode32Fallback (src/varintChainedSimple.c) —
  translated from the CURRENT source, equal the 64-bit functions on 32-bit values / the model's `enc32`, `dec32`.
-/
namespace Varint.Bridge.W32
open Varint Varint.Gen.C Varint.Bridge

/-- `varintTaggedPutVarint32(p, v)` is `varintTaggedPut64(p, v)` -/
theorem taggedPutVarint32_eq (v : Nat) : taggedPutVarint32 v = taggedPut64 v := by
  unfold taggedPutVarint32; rfl

/-- `varintTaggedGetVarint32` = the 64-bit reader, value cut to 32 bits (nothing read = 0 stored) -/
theorem taggedGetVarint32_eq (z : Nat → Nat) :
    taggedGetVarint32 z = ((taggedGet z 9).1, some (((taggedGet z 9).2).getD 0 % 2 ^ 32)) := by
  unfold taggedGetVarint32; rfl

/-- **`varintChainedSimpleEncode32(p, v)`** for every 32-bit value: returns the number of bytes and stores the model's
    `enc32 v` at p[0 …] -/
theorem csEncode32_eq (v : Nat) (hv : v < 2 ^ 32) :
    csEncode32 v = ((ChainedSimple.enc32 v).length, storesFrom 0 (ChainedSimple.enc32 v)) := by
  unfold csEncode32 ChainedSimple.enc32
  simp only [CSimple.or128_byte]
  by_cases c1 : v < 128
  · have e : v % 2 ^ 8 = v := by omega
    simp [c1, e, storesFrom]
  · by_cases c2 : v < 16384
    · have e : v / 2 ^ 7 % 2 ^ 8 = v / 2 ^ 7 := by omega
      simp [c1, c2, e, storesFrom]
    · by_cases c3 : v < 2097152
      · have e : v / 2 ^ 14 % 2 ^ 8 = v / 2 ^ 14 := by omega
        simp [c1, c2, c3, e, storesFrom]
      · by_cases c4 : v < 268435456
        · have e : v / 2 ^ 21 % 2 ^ 8 = v / 2 ^ 21 := by omega
          simp [c1, c2, c3, c4, e, storesFrom]
        · have e : v / 2 ^ 28 % 2 ^ 8 = v / 2 ^ 28 := by omega
          simp [c1, c2, c3, c4, e, storesFrom]

/-- **`varintChainedSimpleDecode32Fallback`** = the 64-bit decoder, value cut to 32 bits = the model's `dec32` -/
theorem csDecode32Fallback_eq (bs : List Nat) (fuel val n : Nat) (hb : ∀ b ∈ bs, b < 256) (hf : 10 ≤ fuel)
    (h : ChainedSimple.dec32 bs = some (val, n)) :
    csDecode32Fallback fuel (Bridge.Tagged.bufOf bs) = some (n, some val) := by
  unfold ChainedSimple.dec32 at h
  cases hd : ChainedSimple.dec bs with
  | none => rw [hd] at h; simp at h
  | some r =>
    obtain ⟨v64, l⟩ := r
    rw [hd] at h
    simp only [Option.map_some, Option.some.injEq, Prod.mk.injEq] at h
    obtain ⟨rfl, rfl⟩ := h
    unfold csDecode32Fallback
    rw [CSimple.csDecode64_eq bs fuel v64 l hb hf hd]
    rfl

end Varint.Bridge.W32
