import Varint.Gen.CBP
import Varint.Lemmas.BP128
import Varint.Bridge.Loop
import Varint.Bridge.Tagged
/-
  Bridge: `varintBP128BitsNeeded64` (shift loop) and `varintBP128MaxBitWidth64` (maximum scan, then bits needed) of
  src/varintBP128.{h,c}, translated from the CURRENT source, equal the model's `bitsNeeded` / `BP128.bitWidth` — the width
  every block of the 64-bit BP128 codec is packed with.
-/
namespace Varint.Bridge.BP
open Varint Varint.Gen.C Varint.Bits
open Varint.Bridge.Tagged (bufOf)

theorem bits_loop : ∀ (fuel v l : Nat), Nat.log2 v + 1 < fuel → l + Nat.log2 v + 1 < 2 ^ 8 → v ≠ 0 →
    bpBitsNeeded64_loop1 fuel (v, l) = .done (0, l + Nat.log2 v + 1) := by
  intro fuel
  induction fuel with
  | zero => intro v l h; omega
  | succ f ih =>
    intro v l hf hl hv0
    simp only [bpBitsNeeded64_loop1, ne_eq, hv0, not_false_eq_true, if_true, Nat.pow_one]
    rw [Nat.mod_eq_of_lt (by omega)]
    by_cases c : v / 2 = 0
    · have hv1 : v = 1 := by omega
      subst hv1
      have hs : Nat.log2 1 = 0 := log2_small 1 (by omega)
      obtain ⟨f', rfl⟩ : ∃ f', f = f' + 1 := ⟨f - 1, by omega⟩
      simp [bpBitsNeeded64_loop1, hs]
    · have hs := log2_step v (by omega)
      rw [ih (v / 2) (l + 1) (by omega) (by omega) c, hs]
      congr 2
      omega

/-- **`varintBP128BitsNeeded64(v)`** = the model's `bitsNeeded`, every 64-bit value, every fuel ≥ 66 -/
theorem bpBitsNeeded64_eq (v fuel : Nat) (hv : v < 2 ^ 64) (hf : 66 ≤ fuel) :
    bpBitsNeeded64 fuel v = some (bitsNeeded v) := by
  unfold bpBitsNeeded64 bitsNeeded
  by_cases c : v = 0
  · rw [if_pos c, if_pos c]
  · rw [if_neg c, if_neg c]
    have h63 : Nat.log2 v ≤ 63 := log2_le_63 v hv
    simp only []
    rw [bits_loop fuel v 0 (by omega) (by omega) c]
    simp

theorem max_loop (xs : List Nat) (hn : xs.length < 2 ^ 63) :
    ∀ (n i m : Nat), i + n = xs.length → ∀ fuel, n < fuel →
      bpMaxBitWidth64_loop1 (bufOf xs) xs.length fuel (i, m) = .done (xs.length, (xs.drop i).foldl max m) := by
  intro n
  induction n with
  | zero =>
    intro i m hi fuel hf
    obtain ⟨f, rfl⟩ : ∃ f', fuel = f' + 1 := ⟨fuel - 1, by omega⟩
    have : i = xs.length := by omega
    subst this
    simp [bpMaxBitWidth64_loop1]
  | succ n ih =>
    intro i m hi fuel hf
    obtain ⟨f, rfl⟩ : ∃ f', fuel = f' + 1 := ⟨fuel - 1, by omega⟩
    have c : i < xs.length := by omega
    have hdrop : xs.drop i = xs[i]'c :: xs.drop (i + 1) := by rw [List.drop_eq_getElem_cons c]
    have hv : bufOf xs i = xs[i]'c := Tagged.bufOf_getElem xs i c
    have e1 : (i + 1) % 2 ^ 64 = i + 1 := Nat.mod_eq_of_lt (by omega)
    simp only [bpMaxBitWidth64_loop1, if_pos c, hv, e1]
    have hm : (if xs[i]'c > m then xs[i]'c else m) = max m (xs[i]'c) := by
      by_cases d : xs[i]'c > m
      · rw [if_pos d]; omega
      · rw [if_neg d]; omega
    rw [hm, ih (i + 1) _ (by omega) f (by omega), hdrop, List.foldl_cons]

/-- **`varintBP128MaxBitWidth64(values, n)`** = the model's block width `bitWidth` -/
theorem bpMaxBitWidth64_eq (xs : List Nat) (hx : ∀ x ∈ xs, x < 2 ^ 64) (hn : xs.length < 2 ^ 63) (fuel : Nat)
    (hf : xs.length + 66 ≤ fuel) : bpMaxBitWidth64 fuel (bufOf xs) xs.length = some (BP128.bitWidth xs) := by
  unfold bpMaxBitWidth64 BP128.bitWidth BP128.maxL
  by_cases c : xs.length = 0
  · rw [if_pos c]
    have : xs = [] := List.eq_nil_of_length_eq_zero c
    subst this
    simp [bitsNeeded]
  · rw [if_neg c]
    simp only []
    rw [max_loop xs hn xs.length 0 0 (by omega) fuel (by omega)]
    simp only [List.drop_zero]
    have hmax : xs.foldl max 0 < 2 ^ 64 := BP128.maxL_lt xs _ (by omega) hx
    rw [bpBitsNeeded64_eq _ fuel hmax (by omega)]

end Varint.Bridge.BP
