import Varint.Lemmas.PackedSeq
import Varint.Lemmas.Packed
import Varint.Bridge.Packed
import Varint.Bridge.Packed13
/-
  C09 — packed bit arrays: element isolation and sorted-array semantics.
  `S` = slot width, `b` = value width, `ws` = the slot array, element `i` = bits [i*b, i*b+b) of the
  slots read as one little-endian bit string (`Packed.val`). `Fits` says the element's one or two
  slots exist and it spans at most two slots (the property's domain).
-/
namespace Varint.Props.C09
open Varint Varint.Packed Varint.BF

/-- reading element i after writing it returns exactly the written value -/
theorem packed_get_set (S b i v : Nat) (ws : List Nat) (hS : 0 < S) (hb : 1 ≤ b) (hv : v < 2 ^ b)
    (hw : WordsOK S ws) (hf : Fits S b i ws) :
    get S b (set S b ws i v) i = v :=
  get_set_self i v hS hv hw hf

/-- every other element keeps its value -/
theorem packed_set_other (S b i j v : Nat) (ws : List Nat) (hS : 0 < S) (hb : 1 ≤ b) (hv : v < 2 ^ b)
    (hw : WordsOK S ws) (hf : Fits S b i ws) (hij : i ≠ j) (hspan : b ≤ 2 * S - j * b % S) :
    get S b (set S b ws i v) j = get S b ws j :=
  get_set_ne i j v hS hv hw hf hij hspan

/-- every storage bit outside the element — inside or after the array — is unchanged,
    the slot array keeps its length and its slots stay S-bit words -/
theorem packed_bits_outside (S b i v : Nat) (ws : List Nat) (hS : 0 < S) (hb : 1 ≤ b) (hv : v < 2 ^ b)
    (hw : WordsOK S ws) (hf : Fits S b i ws) (p : Nat) (hp : p < i * b ∨ i * b + b ≤ p) :
    (val S (set S b ws i v)).testBit p = (val S ws).testBit p ∧
    (set S b ws i v).length = ws.length ∧ WordsOK S (set S b ws i v) := by
  obtain ⟨_, hok, hlen⟩ := val_set i v hS hv hw hf
  exact ⟨set_bits_outside i v hS hv hw hf p hp, hlen, hok⟩

/-- only the one or two slots the element occupies are written -/
theorem packed_slots_touched (S b i v : Nat) (ws : List Nat) (k : Nat)
    (hk : k ≠ i * b / S ∧ (b ≤ S - i * b % S ∨ k ≠ i * b / S + 1)) :
    (set S b ws i v).getD k 0 = ws.getD k 0 := by
  unfold Packed.set
  simp only []
  by_cases hc : b ≤ S - i * b % S
  · rw [if_pos hc]; exact Bitstream.getD_set_ne _ _ _ _ (Ne.symm hk.1)
  · rw [if_neg hc]
    have h2 : k ≠ i * b / S + 1 := by
      rcases hk.2 with h | h
      · exact absurd h hc
      · exact h
    rw [Bitstream.getD_set_ne _ _ _ _ (Ne.symm h2), Bitstream.getD_set_ne _ _ _ _ (Ne.symm hk.1)]

/-- increment (non-negative, result in range) and halve change only the addressed element -/
theorem packed_incr_half_local (S b i j d : Nat) (ws : List Nat) (hS : 0 < S) (hb : 1 ≤ b)
    (hw : WordsOK S ws) (hf : Fits S b i ws) (hij : i ≠ j) (hspan : b ≤ 2 * S - j * b % S)
    (hd : get S b ws i + d < 2 ^ b) :
    get S b (setIncr S b ws i d) i = get S b ws i + d ∧
    get S b (setIncr S b ws i d) j = get S b ws j ∧
    get S b (setHalf S b ws i) i = get S b ws i / 2 ∧
    get S b (setHalf S b ws i) j = get S b ws j := by
  obtain ⟨_, a, c⟩ := setIncr_spec i d hS hw hf hd
  obtain ⟨_, e, g⟩ := setHalf_spec i hS hw hf
  exact ⟨a, c j hij hspan, e, g j hij hspan⟩

/-- lower-bound search: on a sorted prefix the result is the least index whose element is ≥ v -/
theorem packed_lower_bound (S b : Nat) (ws : List Nat) (len v : Nat)
    (hsorted : ∀ k k', k ≤ k' → k' < len → get S b ws k ≤ get S b ws k') :
    let r := bsearch S b ws len v
    r ≤ len ∧ (∀ k, k < r → get S b ws k < v) ∧ (∀ k, r ≤ k → k < len → v ≤ get S b ws k) := by
  intro r
  exact bsearch_spec len v ((sorted_elems_iff len).mpr hsorted)

/-! ## sorted-array semantics: the shifting loops refine list operations on `elems` (the first `n`
    elements read through `get`). `FitsN` = each of the n elements has its one or two slots;
    `WordsOK` = every slot value is below 2^S (preserved by every operation). -/

/-- positional insert = `List.insertIdx`; slot count unchanged; elements beyond and storage bits outside untouched -/
theorem packed_insert_refines (S b : Nat) (hS : 0 < S) (hb : 1 ≤ b) (ws : List Nat) (len off v : Nat)
    (hoff : off ≤ len) (hw : WordsOK S ws) (hf : FitsN S b ws (len + 1)) (hv : v < 2 ^ b) :
    elems S b (insertAt S b ws len off v) (len + 1) = (elems S b ws len).insertIdx off v ∧
    (insertAt S b ws len off v).length = ws.length ∧ WordsOK S (insertAt S b ws len off v) ∧
    (∀ j, len < j → Span S b j → get S b (insertAt S b ws len off v) j = get S b ws j) ∧
    (∀ p, (p < off * b ∨ (len + 1) * b ≤ p) →
      (val S (insertAt S b ws len off v)).testBit p = (val S ws).testBit p) := by
  obtain ⟨hl, hok, _, hout⟩ := insertAt_spec hS len off v hoff hw hf hv
  exact ⟨elems_insertAt_insertIdx hS len off v hoff hw hf hv, hl, hok,
    insertAt_beyond hS len off v hoff hw hf hv, hout⟩

/-- positional delete = `List.eraseIdx` -/
theorem packed_delete_refines (S b : Nat) (hS : 0 < S) (hb : 1 ≤ b) (ws : List Nat) (len off : Nat)
    (hoff : off < len) (hw : WordsOK S ws) (hf : FitsN S b ws len) :
    elems S b (deleteAt S b ws len off) (len - 1) = (elems S b ws len).eraseIdx off ∧
    (deleteAt S b ws len off).length = ws.length ∧ WordsOK S (deleteAt S b ws len off) ∧
    (∀ p, (p < off * b ∨ (len - 1) * b ≤ p) →
      (val S (deleteAt S b ws len off)).testBit p = (val S ws).testBit p) := by
  obtain ⟨hl, hok, _, hout⟩ := deleteAt_spec hS len off hoff hw hf
  exact ⟨elems_deleteAt hS len off hoff hw hf, hl, hok, hout⟩

/-- sorted insert keeps the array sorted and adds exactly one copy of v (a permutation of v :: old) -/
theorem packed_insert_sorted (S b : Nat) (hS : 0 < S) (hb : 1 ≤ b) (ws : List Nat) (len v : Nat)
    (hw : WordsOK S ws) (hf : FitsN S b ws (len + 1)) (hv : v < 2 ^ b)
    (hsorted : (elems S b ws len).Pairwise (· ≤ ·)) :
    (elems S b (insertSorted S b ws len v) (len + 1)).Pairwise (· ≤ ·) ∧
    (elems S b (insertSorted S b ws len v) (len + 1)).Perm (v :: elems S b ws len) :=
  insertSorted_sorted_perm hS len v hw hf hv hsorted

/-- membership on a sorted array: found ⇔ present, and the index is the FIRST equal element -/
theorem packed_member_spec (S b : Nat) (ws : List Nat) (len v : Nat)
    (hsorted : (elems S b ws len).Pairwise (· ≤ ·)) :
    (member S b ws len v ≥ 0 ↔ v ∈ elems S b ws len) ∧
    (member S b ws len v ≥ 0 → ∃ m : Nat, member S b ws len v = (m : Int) ∧ m < len ∧ get S b ws m = v ∧
      ∀ k, k < m → get S b ws k ≠ v) ∧
    (v ∉ elems S b ws len → member S b ws len v = -1) :=
  ⟨member_nonneg_iff len v hsorted, member_first len v hsorted,
   member_neg_of_not_mem len v hsorted⟩

/-- delete-member removes the first occurrence and keeps the rest sorted; absent ⇒ untouched, false -/
theorem packed_delete_member (S b : Nat) (hS : 0 < S) (hb : 1 ≤ b) (ws : List Nat) (len v : Nat)
    (hw : WordsOK S ws) (hf : FitsN S b ws len) (hsorted : (elems S b ws len).Pairwise (· ≤ ·)) :
    (v ∈ elems S b ws len →
      (deleteMember S b ws len v).2 = true ∧
      elems S b (deleteMember S b ws len v).1 (len - 1) = (elems S b ws len).erase v ∧
      (elems S b (deleteMember S b ws len v).1 (len - 1)).Pairwise (· ≤ ·)) ∧
    (v ∉ elems S b ws len → deleteMember S b ws len v = (ws, false)) :=
  ⟨fun hm => let h := deleteMember_mem hS len v hw hf hsorted hm; ⟨h.1, h.2.2.2.1, h.2.2.2.2⟩,
   fun hm => deleteMember_not_mem len v hsorted hm⟩

example : elems 8 12 (insertSorted 8 12 [33, 225, 61, 188, 250, 255] 3 0x200) 4 = [0x121, 0x200, 0x3de, 0xabc] := by decide

/-- non-vacuity: the tree's own configuration (12-bit values in uint8_t slots), an element crossing slots -/
example : Fits 8 12 1 [0, 0, 0] := by unfold Fits; decide
example : get 8 12 (set 8 12 [255, 255, 255] 1 0xabc) 1 = 0xabc ∧ get 8 12 (set 8 12 [255, 255, 255] 1 0xabc) 0 = 0xfff := by
  decide

/-! ## C09 on the code itself: the default instantiation of src/varintPacked.h (12-bit values, uint32_t slots,
    `varintPacked12*`), machine-translated from the CURRENT header (Varint.Gen.C.packed12*; bridge theorems and
    `inst12` in Varint/Bridge/Packed.lean). `memOf ws` is the slot array seen as memory, `applyStores ws st` the array after the
    C's stores. -/
open Varint.Gen.C Varint.Bridge Varint.Bridge.Bits Varint.Bridge.Packed in
/-- **element isolation on the translated C**: after `varintPacked12Set(dst, i, v)` — whose stores all fall inside the
    slot array — `varintPacked12Get` returns `v` at `i` and the old value at every other index; every storage bit outside
    the element is unchanged -/
theorem c_packed12_set_get (ws : List Nat) (hw : WordsOK 32 ws) (i v : Nat) (hi : i < 2 ^ 32) (hv : v < 2 ^ 12)
    (hf : Fits 32 12 i ws) :
    (∀ p ∈ packed12Set (memOf ws) i v, p.1 < ws.length) ∧
    packed12Get (memOf (applyStores ws (packed12Set (memOf ws) i v))) i = v ∧
    (∀ j, j ≠ i → j < 2 ^ 32 →
      packed12Get (memOf (applyStores ws (packed12Set (memOf ws) i v))) j = packed12Get (memOf ws) j) ∧
    (∀ p, (p < i * 12 ∨ i * 12 + 12 ≤ p) →
      (val 32 (applyStores ws (packed12Set (memOf ws) i v))).testBit p = (val 32 ws).testBit p) :=
  inst12.set_get hw i v hi hv hf

open Varint.Gen.C Varint.Bridge Varint.Bridge.Bits Varint.Bridge.Packed in
/-- **sorted-array semantics on the translated C** (`varintPacked12Member`): on a sorted array of `len` < 2^32 elements
    the result is non-negative exactly when the value is present, and then it is the index of the FIRST equal element -/
theorem c_packed12_member (ws : List Nat) (hw : WordsOK 32 ws) (len v : Nat) (hlen : len < 2 ^ 32)
    (hsorted : (elems 32 12 ws len).Pairwise (· ≤ ·)) (fuel : Nat) (hfu : len < fuel) :
    ∃ r : Int, packed12Member fuel (memOf ws) len v = some r ∧ (r ≥ 0 ↔ v ∈ elems 32 12 ws len) ∧
      (r ≥ 0 → ∃ m : Nat, r = (m : Int) ∧ m < len ∧ packed12Get (memOf ws) m = v ∧
        ∀ k, k < m → packed12Get (memOf ws) k ≠ v) ∧ (v ∉ elems 32 12 ws len → r = -1) :=
  inst12.member_spec hw len v hlen hsorted fuel hfu

open Varint.Gen.C Varint.Bridge Varint.Bridge.Bits Varint.Bridge.Packed in
/-- **`varintPacked12InsertSorted` on the translated C**: every store falls inside the slot array, and the array it
    leaves is sorted and holds exactly one more copy of `v` -/
theorem c_packed12_insert_sorted (ws : List Nat) (hw : WordsOK 32 ws) (len v : Nat) (hlen : len < 2 ^ 32)
    (hf : FitsN 32 12 ws (len + 1)) (hv : v < 2 ^ 12) (hsorted : (elems 32 12 ws len).Pairwise (· ≤ ·))
    (fuel : Nat) (hfu : len < fuel) :
    ∃ st, packed12InsertSorted fuel (memOf ws) len v = some st ∧ (∀ p ∈ st, p.1 < ws.length) ∧
      (elems 32 12 (applyStores ws st) (len + 1)).Pairwise (· ≤ ·) ∧
      (elems 32 12 (applyStores ws st) (len + 1)).Perm (v :: elems 32 12 ws len) :=
  inst12.insertSorted_spec hw len v hlen hf hv hsorted fuel hfu

open Varint.Gen.C Varint.Bridge Varint.Bridge.Bits Varint.Bridge.Packed in
/-- **`varintPacked12Insert` / `varintPacked12Delete` on the translated C** refine `List.insertIdx` / `List.eraseIdx`
    on the element list; all stores inside the slot array -/
theorem c_packed12_insert_delete (ws : List Nat) (hw : WordsOK 32 ws) (len off v : Nat) (hlen : len < 2 ^ 32 - 1)
    (hv : v < 2 ^ 12) (fuel : Nat) (hfu : len < fuel) :
    (off ≤ len → FitsN 32 12 ws (len + 1) →
      ∃ st, packed12Insert fuel (memOf ws) len off v = some st ∧ (∀ p ∈ st, p.1 < ws.length) ∧
        elems 32 12 (applyStores ws st) (len + 1) = (elems 32 12 ws len).insertIdx off v) ∧
    (off < len → FitsN 32 12 ws len →
      ∃ st, packed12Delete fuel (memOf ws) len off = some st ∧ (∀ p ∈ st, p.1 < ws.length) ∧
        elems 32 12 (applyStores ws st) (len - 1) = (elems 32 12 ws len).eraseIdx off) :=
  inst12.insert_delete hw len off v hlen hv fuel hfu

open Varint.Gen.C Varint.Bridge Varint.Bridge.Bits Varint.Bridge.Packed in
/-- **`varintPacked12DeleteMember` on the translated C**: present ⇒ true and the first occurrence is erased, the rest
    stays sorted; absent ⇒ false and the slot array is left as it was -/
theorem c_packed12_delete_member (ws : List Nat) (hw : WordsOK 32 ws) (len v : Nat) (hlen : len < 2 ^ 32)
    (hf : FitsN 32 12 ws len) (hsorted : (elems 32 12 ws len).Pairwise (· ≤ ·)) (fuel : Nat) (hfu : len < fuel) :
    ∃ r st, packed12DeleteMember fuel (memOf ws) len v = some (r, st) ∧ (∀ p ∈ st, p.1 < ws.length) ∧
      (v ∈ elems 32 12 ws len → r = 1 ∧
        elems 32 12 (applyStores ws st) (len - 1) = (elems 32 12 ws len).erase v ∧
        (elems 32 12 (applyStores ws st) (len - 1)).Pairwise (· ≤ ·)) ∧
      (v ∉ elems 32 12 ws len → r = 0 ∧ applyStores ws st = ws) :=
  inst12.deleteMember_spec hw len v hlen hf hsorted fuel hfu

open Varint.Gen.C Varint.Bridge Varint.Bridge.Bits Varint.Bridge.Packed in
/-- **`varintPacked12SetIncr` / `varintPacked12SetHalf` on the translated C** (non-negative increment whose result
    fits): the addressed element becomes old + d, resp. old / 2, and every other element keeps its value -/
theorem c_packed12_incr_half (ws : List Nat) (hw : WordsOK 32 ws) (i j d : Nat) (hi : i < 2 ^ 32) (hj : j < 2 ^ 32)
    (hf : Fits 32 12 i ws) (hij : i ≠ j) (hd : packed12Get (memOf ws) i + d < 2 ^ 12) :
    packed12Get (memOf (applyStores ws (packed12SetIncr (memOf ws) i (d : Int)))) i = packed12Get (memOf ws) i + d ∧
    packed12Get (memOf (applyStores ws (packed12SetIncr (memOf ws) i (d : Int)))) j = packed12Get (memOf ws) j ∧
    packed12Get (memOf (applyStores ws (packed12SetHalf (memOf ws) i))) i = packed12Get (memOf ws) i / 2 ∧
    packed12Get (memOf (applyStores ws (packed12SetHalf (memOf ws) i))) j = packed12Get (memOf ws) j :=
  inst12.incr_half hw i j d hi hj hf hij hd

/-! ## the same on a second instantiation of src/varintPacked.h whose width does not divide the slot (13-bit values,
    uint32_t slots, `varintPacked13*`), machine-translated from the CURRENT header (Varint.Gen.C.packed13*; `inst13` in
    Varint/Bridge/Packed13.lean) -/
open Varint.Gen.C Varint.Bridge Varint.Bridge.Bits Varint.Bridge.Packed13 in
/-- **element isolation on the translated C**: after `varintPacked13Set(dst, i, v)` — whose stores all fall inside the
    slot array — `varintPacked13Get` returns `v` at `i` and the old value at every other index; every storage bit outside
    the element is unchanged -/
theorem c_packed13_set_get (ws : List Nat) (hw : WordsOK 32 ws) (i v : Nat) (hi : i < 2 ^ 32) (hv : v < 2 ^ 13)
    (hf : Fits 32 13 i ws) :
    (∀ p ∈ packed13Set (memOf ws) i v, p.1 < ws.length) ∧
    packed13Get (memOf (applyStores ws (packed13Set (memOf ws) i v))) i = v ∧
    (∀ j, j ≠ i → j < 2 ^ 32 →
      packed13Get (memOf (applyStores ws (packed13Set (memOf ws) i v))) j = packed13Get (memOf ws) j) ∧
    (∀ p, (p < i * 13 ∨ i * 13 + 13 ≤ p) →
      (val 32 (applyStores ws (packed13Set (memOf ws) i v))).testBit p = (val 32 ws).testBit p) :=
  inst13.set_get hw i v hi hv hf

open Varint.Gen.C Varint.Bridge Varint.Bridge.Bits Varint.Bridge.Packed13 in
/-- **sorted-array semantics on the translated C** (`varintPacked13Member`): on a sorted array of `len` < 2^32 elements
    the result is non-negative exactly when the value is present, and then it is the index of the FIRST equal element -/
theorem c_packed13_member (ws : List Nat) (hw : WordsOK 32 ws) (len v : Nat) (hlen : len < 2 ^ 32)
    (hsorted : (elems 32 13 ws len).Pairwise (· ≤ ·)) (fuel : Nat) (hfu : len < fuel) :
    ∃ r : Int, packed13Member fuel (memOf ws) len v = some r ∧ (r ≥ 0 ↔ v ∈ elems 32 13 ws len) ∧
      (r ≥ 0 → ∃ m : Nat, r = (m : Int) ∧ m < len ∧ packed13Get (memOf ws) m = v ∧
        ∀ k, k < m → packed13Get (memOf ws) k ≠ v) ∧ (v ∉ elems 32 13 ws len → r = -1) :=
  inst13.member_spec hw len v hlen hsorted fuel hfu

open Varint.Gen.C Varint.Bridge Varint.Bridge.Bits Varint.Bridge.Packed13 in
/-- **`varintPacked13InsertSorted` on the translated C**: every store falls inside the slot array, and the array it
    leaves is sorted and holds exactly one more copy of `v` -/
theorem c_packed13_insert_sorted (ws : List Nat) (hw : WordsOK 32 ws) (len v : Nat) (hlen : len < 2 ^ 32)
    (hf : FitsN 32 13 ws (len + 1)) (hv : v < 2 ^ 13) (hsorted : (elems 32 13 ws len).Pairwise (· ≤ ·))
    (fuel : Nat) (hfu : len < fuel) :
    ∃ st, packed13InsertSorted fuel (memOf ws) len v = some st ∧ (∀ p ∈ st, p.1 < ws.length) ∧
      (elems 32 13 (applyStores ws st) (len + 1)).Pairwise (· ≤ ·) ∧
      (elems 32 13 (applyStores ws st) (len + 1)).Perm (v :: elems 32 13 ws len) :=
  inst13.insertSorted_spec hw len v hlen hf hv hsorted fuel hfu

open Varint.Gen.C Varint.Bridge Varint.Bridge.Bits Varint.Bridge.Packed13 in
/-- **`varintPacked13Insert` / `varintPacked13Delete` on the translated C** refine `List.insertIdx` / `List.eraseIdx`
    on the element list; all stores inside the slot array -/
theorem c_packed13_insert_delete (ws : List Nat) (hw : WordsOK 32 ws) (len off v : Nat) (hlen : len < 2 ^ 32 - 1)
    (hv : v < 2 ^ 13) (fuel : Nat) (hfu : len < fuel) :
    (off ≤ len → FitsN 32 13 ws (len + 1) →
      ∃ st, packed13Insert fuel (memOf ws) len off v = some st ∧ (∀ p ∈ st, p.1 < ws.length) ∧
        elems 32 13 (applyStores ws st) (len + 1) = (elems 32 13 ws len).insertIdx off v) ∧
    (off < len → FitsN 32 13 ws len →
      ∃ st, packed13Delete fuel (memOf ws) len off = some st ∧ (∀ p ∈ st, p.1 < ws.length) ∧
        elems 32 13 (applyStores ws st) (len - 1) = (elems 32 13 ws len).eraseIdx off) :=
  inst13.insert_delete hw len off v hlen hv fuel hfu

open Varint.Gen.C Varint.Bridge Varint.Bridge.Bits Varint.Bridge.Packed13 in
/-- **`varintPacked13DeleteMember` on the translated C**: present ⇒ true and the first occurrence is erased, the rest
    stays sorted; absent ⇒ false and the slot array is left as it was -/
theorem c_packed13_delete_member (ws : List Nat) (hw : WordsOK 32 ws) (len v : Nat) (hlen : len < 2 ^ 32)
    (hf : FitsN 32 13 ws len) (hsorted : (elems 32 13 ws len).Pairwise (· ≤ ·)) (fuel : Nat) (hfu : len < fuel) :
    ∃ r st, packed13DeleteMember fuel (memOf ws) len v = some (r, st) ∧ (∀ p ∈ st, p.1 < ws.length) ∧
      (v ∈ elems 32 13 ws len → r = 1 ∧
        elems 32 13 (applyStores ws st) (len - 1) = (elems 32 13 ws len).erase v ∧
        (elems 32 13 (applyStores ws st) (len - 1)).Pairwise (· ≤ ·)) ∧
      (v ∉ elems 32 13 ws len → r = 0 ∧ applyStores ws st = ws) :=
  inst13.deleteMember_spec hw len v hlen hf hsorted fuel hfu

open Varint.Gen.C Varint.Bridge Varint.Bridge.Bits Varint.Bridge.Packed13 in
/-- **`varintPacked13SetIncr` / `varintPacked13SetHalf` on the translated C** (non-negative increment whose result
    fits): the addressed element becomes old + d, resp. old / 2, and every other element keeps its value -/
theorem c_packed13_incr_half (ws : List Nat) (hw : WordsOK 32 ws) (i j d : Nat) (hi : i < 2 ^ 32) (hj : j < 2 ^ 32)
    (hf : Fits 32 13 i ws) (hij : i ≠ j) (hd : packed13Get (memOf ws) i + d < 2 ^ 13) :
    packed13Get (memOf (applyStores ws (packed13SetIncr (memOf ws) i (d : Int)))) i = packed13Get (memOf ws) i + d ∧
    packed13Get (memOf (applyStores ws (packed13SetIncr (memOf ws) i (d : Int)))) j = packed13Get (memOf ws) j ∧
    packed13Get (memOf (applyStores ws (packed13SetHalf (memOf ws) i))) i = packed13Get (memOf ws) i / 2 ∧
    packed13Get (memOf (applyStores ws (packed13SetHalf (memOf ws) i))) j = packed13Get (memOf ws) j :=
  inst13.incr_half hw i j d hi hj hf hij hd

end Varint.Props.C09
