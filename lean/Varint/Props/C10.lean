import Varint.Lemmas.DimBits
import Varint.Lemmas.Dimension
import Varint.Bridge.Dim
/-
  C10 — dimension headers round-trip and matrix cells are independent.
-/
namespace Varint.Props.C10
open Varint Varint.Dim

/-- every pair of 32-bit coordinates packs, and unpacks to itself -/
theorem dim_pack_roundtrip (r c : Nat) (hr : r < 2 ^ 32) (hc : c < 2 ^ 32) :
    ∃ p d, pack r c = some (p, d) ∧ unpack p d = (r, c) ∧ p < 2 ^ 64 := by
  cases hd : packDim (max r c) with
  | none => exact absurd ((packDim_eq_none_iff _).mp hd) (by omega)
  | some d =>
    obtain ⟨hp, _, hcd, hlt⟩ := pack_of_packDim r c d hd
    exact ⟨_, d, hp, unpack_mul_add r c d hcd, hlt⟩

/-- packing fails exactly when a coordinate does not fit 32 bits -/
theorem dim_pack_fails_iff (r c : Nat) : pack r c = none ↔ (2 ^ 32 ≤ r ∨ 2 ^ 32 ≤ c) := by
  unfold pack
  rw [Option.map_eq_none_iff, packDim_eq_none_iff]
  omega

/-- all 72 (row width 0–8 × column width 1–8) combinations, either sparse flag -/
theorem dim_pair_byte_all (wr wc : Nat) (s : Bool) (hwr : wr ≤ 8) (hwc1 : 1 ≤ wc) (hwc8 : wc ≤ 8) :
    rowWidthOf (pairByte wr wc s) = wr ∧ colWidthOf (pairByte wr wc s) = wc ∧ pairByte wr wc s < 256 :=
  pairByte_widths wr wc s hwr hwc1 hwc8

/-- header: decodes to the pair that was encoded, occupies exactly rowWidth + colWidth bytes,
    and the pair byte announces exactly those widths -/
theorem dim_pair_roundtrip (rows cols : Nat) (hr : rows < 2 ^ 64) (hc1 : 1 ≤ cols) (hc : cols < 2 ^ 64)
    (rest : List Nat) :
    let (dim, hdr) := pairEncode rows cols
    pairDecode (hdr ++ rest) dim = some (rows, cols) ∧ hdr.length = hdrLen dim ∧
    rowWidthOf dim = widthRows rows ∧ colWidthOf dim = extLen cols ∧ hdrLen dim ≤ 16 := by
  have hwr := widthRows_le_8 hr
  have hwc := extLen_le_8 hc
  have hwc1 := extLen_pos cols
  obtain ⟨e1, e2, _⟩ := dim_pair_byte_all (widthRows rows) (extLen cols) false hwr hwc1 hwc
  show pairDecode (leBytes (rowWidthOf (pairDim rows cols)) rows ++ leBytes (colWidthOf (pairDim rows cols)) cols ++ rest)
        (pairDim rows cols) = some (rows, cols) ∧ _
  unfold pairDim hdrLen
  rw [e1, e2]
  refine ⟨?_, by simp, rfl, rfl, by omega⟩
  unfold pairDecode
  simp only [e1, e2]
  rw [List.append_assoc, takeExact_append _ _ (leBytes_length _ _), List.drop_left' (leBytes_length _ _),
    takeExact_append _ _ (leBytes_length _ _)]
  simp only [Option.some.injEq, Prod.mk.injEq]
  constructor
  · unfold widthRows
    split
    · rename_i h0; subst h0; simp [leBytes, ofLe]
    · exact ofLe_leBytes_of_lt (lt_pow_extLen rows)
  · exact ofLe_leBytes_of_lt (lt_pow_extLen cols)

/-- writing an unsigned entry (1–8 bytes; float/double cells are the 4/8-byte case on their IEEE
    bits) makes a read of that cell return the written value -/
theorem dim_cell_get_set (buf out : List Nat) (dim row col v w : Nat) (hv : v < 256 ^ w)
    (h : setEntry buf dim row col v w = some out) : getEntry out dim row col w = some v := by
  obtain ⟨k, hk, hwr, _, _, hci⟩ := setEntry_some buf out dim row col v w h
  unfold getEntry
  rw [hci, hk]
  have := readAt_writeAt_same _ _ _ _ hwr
  rw [leBytes_length] at this
  simp only [this, Option.map_some, ofLe_leBytes_of_lt hv]

/-- …and changes no other cell and no header byte -/
theorem dim_cells_disjoint (buf out : List Nat) (dim row col v w row' col' cols : Nat) (hw : 1 ≤ w)
    (hcols : ∀ r c, r ≠ 0 → cellIndex buf dim r c = some (r * cols + c))
    (hc : col < cols) (hc' : col' < cols) (hne : (row, col) ≠ (row', col'))
    (h : setEntry buf dim row col v w = some out) :
    getEntry out dim row' col' w = getEntry buf dim row' col' w ∧
    out.take (hdrLen dim) = buf.take (hdrLen dim) ∧ out.length = buf.length := by
  have hidx := cellIndex_of_cols buf dim cols hcols
  obtain ⟨k, hk0, h, hlen, htake, hci⟩ := setEntry_some buf out dim row col v w h
  rw [hidx row col] at hk0
  cases hk0
  refine ⟨?_, htake, hlen⟩
  unfold getEntry
  rw [hci, hidx row' col']
  simp only []
  have hk := index_ne cols row col row' col' hc hc' hne
  rw [readAt_writeAt_disjoint _ _ _ _ _ _ h]
  rw [leBytes_length]
  rcases Nat.lt_or_gt_of_ne hk with hlt | hgt
  · right
    have : (row * cols + col + 1) * w ≤ (row' * cols + col') * w := Nat.mul_le_mul_right w hlt
    rw [Nat.add_mul] at this; omega
  · left
    have : (row' * cols + col' + 1) * w ≤ (row * cols + col) * w := Nat.mul_le_mul_right w hgt
    rw [Nat.add_mul] at this; omega

/-- writing a bit cell makes a read of it return the written bit -/
theorem dim_bit_get_set (buf out : List Nat) (dim row col : Nat) (on : Bool)
    (h : setBit buf dim row col on = some out) : getBit out dim row col = some on :=
  getBit_setBit buf out dim row col on h

/-- …and changes no other bit cell, no other byte, no header byte, and keeps bytes < 256 -/
theorem dim_bit_isolated (buf out : List Nat) (dim row col k : Nat) (on : Bool)
    (hk : cellIndex buf dim row col = some k) (h : setBit buf dim row col on = some out) :
    (∀ k', k' ≠ k →
      (out[hdrLen dim + k' / 8]?).map (fun b => decide (b / 2 ^ (k' % 8) % 2 = 1)) =
      (buf[hdrLen dim + k' / 8]?).map (fun b => decide (b / 2 ^ (k' % 8) % 2 = 1))) ∧
    (∀ j, j ≠ hdrLen dim + k / 8 → out[j]? = buf[j]?) ∧
    out.length = buf.length ∧
    out.take (hdrLen dim) = buf.take (hdrLen dim) ∧
    ((∀ x ∈ buf, x < 256) → ∀ x ∈ out, x < 256) :=
  setBit_other_bits buf out dim row col k on hk h

/-- the same statement on (row, col) coordinates, with the hypotheses of `dim_cells_disjoint` -/
theorem dim_bit_cells_disjoint (buf out : List Nat) (dim row col row' col' cols : Nat) (on : Bool)
    (hcols : ∀ r c, r ≠ 0 → cellIndex buf dim r c = some (r * cols + c))
    (hc : col < cols) (hc' : col' < cols) (hne : (row, col) ≠ (row', col'))
    (h : setBit buf dim row col on = some out) :
    getBit out dim row' col' = getBit buf dim row' col' ∧
    out.take (hdrLen dim) = buf.take (hdrLen dim) ∧ out.length = buf.length :=
  dim_bits_disjoint buf out dim row col row' col' cols on hcols hc hc' hne h

/-- toggle returns the old bit, stores its complement, and toggling twice restores the buffer -/
theorem dim_bit_toggle (buf out : List Nat) (dim row col : Nat) (old : Bool)
    (h : toggleBit buf dim row col = some (out, old)) :
    getBit buf dim row col = some old ∧ getBit out dim row col = some (!old) ∧
    out.length = buf.length ∧ out.take (hdrLen dim) = buf.take (hdrLen dim) ∧
    toggleBit out dim row col = some (buf, !old) :=
  let ⟨a, b, c, d⟩ := toggleBit_spec buf out dim row col old h
  ⟨a, b, c, d, toggleBit_toggleBit buf out dim row col old h⟩

/-- setting a bit to the value it has is a no-op -/
theorem dim_bit_set_noop (buf : List Nat) (dim row col : Nat) (on : Bool)
    (h : getBit buf dim row col = some on) : setBit buf dim row col on = some buf :=
  setBit_noop buf dim row col on h

example : setBit [3, 5, 0, 0, 0, 0] 16 2 4 true = some [3, 5, 0, 64, 0, 0] := by decide

/-- non-vacuity: a 3×5 matrix of 2-byte cells behind its 2-byte header -/
example : setEntry ([3, 5] ++ List.replicate 30 0) 16 2 4 0xffff 2 = some ([3, 5] ++ List.replicate 28 0 ++ [255, 255]) := by
  decide
example : (pairEncode 256 (2 ^ 32)).1 = 40 ∧ colWidthOf 40 = 5 := by decide

/-! ## C10 on the code itself: src/varintDimension.c machine-translated from the CURRENT source
    (Varint.Gen.C.dim*; bridge theorems in Varint/Bridge/Dim.lean). `bufOf buf` is a byte buffer seen as memory,
    `applyStores buf st` the buffer after the C's stores. -/

open Varint.Gen.C Varint.Bridge Varint.Bridge.Dim in
/-- **(rows, cols) packed into one integer, on the translated C**: every pair of 32-bit coordinates packs (result
    true, level 1..8) and `varintDimensionUnpack` of the packed value at that level returns the pair; a coordinate of 33
    bits or more makes `varintDimensionPack` return false without storing anything. Every fuel ≥ 9. -/
theorem c_dimension_pack_roundtrip (r c fuel : Nat) (hr : r < 2 ^ 64) (hc : c < 2 ^ 64) (hf : 9 ≤ fuel) :
    (r < 2 ^ 32 → c < 2 ^ 32 → ∃ p d, dimPack fuel r c = some (1, some p, some d) ∧ 1 ≤ d ∧ d ≤ 8 ∧ p < 2 ^ 64 ∧
      dimUnpack p d = (some r, some c)) ∧
    ((2 ^ 32 ≤ r ∨ 2 ^ 32 ≤ c) → dimPack fuel r c = some (0, none, none)) := by
  have hp := dimPack_eq r c fuel hf
  constructor
  · intro hr32 hc32
    cases hd : packDim (max r c) with
    | none => exact absurd ((packDim_eq_none_iff _).mp hd) (by omega)
    | some d =>
      obtain ⟨d1, d8, _⟩ := packDim_some _ d hd
      obtain ⟨hpk, _, hcd, hlt⟩ := pack_of_packDim r c d hd
      rw [hpk] at hp
      exact ⟨_, d, hp, d1, d8, hlt, by rw [dimUnpack_eq _ d d8, unpack_mul_add r c d hcd]⟩
  · intro h
    rw [(dim_pack_fails_iff r c).mpr h] at hp
    exact hp

open Varint.Gen.C Varint.Bridge Varint.Bridge.Dim Varint.Bridge.External in
/-- **the variable-width dimension header on the translated C**: `varintDimensionPairEncode` returns a pair byte that
    announces exactly the widths used, stores each of the rowWidth + colWidth header bytes exactly once and nothing beyond,
    and `varintDimensionPairDecode` of any memory holding those bytes returns (rows, cols). Every 64-bit row count
    (0 = vector), every column count 1 ≤ cols < 2^64, every fuel ≥ 8. -/
theorem c_dimension_header_roundtrip (rows cols fuel : Nat) (hr : rows < 2 ^ 64) (hc1 : 1 ≤ cols) (hc : cols < 2 ^ 64)
    (hf : 8 ≤ fuel) (mem : Nat → Nat)
    (hm : ∀ i, i < (pairEncode rows cols).2.length → mem i = (pairEncode rows cols).2.getD i 0) :
    ∃ st, dimPairEncode fuel rows cols = some ((pairEncode rows cols).1, st) ∧ Writes st (pairEncode rows cols).2 ∧
      (pairEncode rows cols).2.length = hdrLen (pairEncode rows cols).1 ∧
      rowWidthOf (pairEncode rows cols).1 = widthRows rows ∧ colWidthOf (pairEncode rows cols).1 = extLen cols ∧
      dimPairDecode mem (pairEncode rows cols).1 = (some rows, some cols) := by
  obtain ⟨st, h1, h2⟩ := dimPairEncode_eq rows cols fuel hr hc1 hc hf
  have hrt := dim_pair_roundtrip rows cols hr hc1 hc []
  simp only [List.append_nil] at hrt
  obtain ⟨hdec, hlen, hw1, hw2, h16⟩ := hrt
  refine ⟨st, h1, h2, hlen, hw1, hw2, ?_⟩
  have hbytes : ∀ b ∈ (pairEncode rows cols).2, b < 256 :=
    List.forall_mem_append.2 ⟨leBytes_lt _ _, leBytes_lt _ _⟩
  unfold hdrLen at hlen
  exact dimPairDecode_of_mem mem _ hbytes _ rows cols (by rw [hw1]; exact widthRows_le_8 hr) (by omega)
    (fun i hi => hm i (by omega)) hdec

open Varint.Gen.C Varint.Bridge Varint.Bridge.Dim Varint.Bridge.Tagged in
/-- **bit cells on the translated C**: `varintDimensionPairEntrySetBit` makes exactly one store, inside the buffer,
    after which `varintDimensionPairEntryGetBit` of that cell returns the written bit (true sets, false clears); the
    header bytes and the buffer length are unchanged -/
theorem c_dimension_bit_set_get {buf : List Nat} {dim row col k : Nat} (h : CellOK buf dim row col k) (on : Bool) :
    ∃ nb, dimEntrySetBit (bufOf buf) row col (if on then 1 else 0) dim = [(hdrLen dim + k / 8, nb)] ∧
      hdrLen dim + k / 8 < buf.length ∧
      dimEntryGetBit (bufOf (applyStores buf [(hdrLen dim + k / 8, nb)])) row col dim = (if on then 1 else 0) ∧
      (applyStores buf [(hdrLen dim + k / 8, nb)]).take (hdrLen dim) = buf.take (hdrLen dim) ∧
      (applyStores buf [(hdrLen dim + k / 8, nb)]).length = buf.length := by
  obtain ⟨nb, h1, h2⟩ := dimEntrySetBit_eq h on
  obtain ⟨_, _, hlen, htake, hbytes⟩ := dim_bit_isolated buf _ dim row col k on h.idx h2
  have hget := dim_bit_get_set buf _ dim row col on h2
  have hok : CellOK (applyStores buf [(hdrLen dim + k / 8, nb)]) dim row col k :=
    { bytes := hbytes h.bytes, hdr := by rw [hlen]; exact h.hdr, wr := h.wr, row64 := h.row64, col64 := h.col64,
      idx := by rw [cellIndex_congr _ buf dim row col htake hlen]; exact h.idx, k64 := h.k64,
      inside := by rw [hlen]; exact h.inside }
  obtain ⟨g1, g2⟩ := dimEntryGetBit_eq hok
  refine ⟨nb, h1, h.inside, ?_, htake, hlen⟩
  rw [hget] at g1
  simp only [Option.some.injEq] at g1
  subst g1
  by_cases c : dimEntryGetBit (bufOf (applyStores buf [(hdrLen dim + k / 8, nb)])) row col dim = 1
  · simp [c]
  · simp only [c, decide_false, Bool.false_eq_true, if_false]
    omega

open Varint.Gen.C Varint.Bridge Varint.Bridge.Dim Varint.Bridge.Tagged in
/-- **toggle on the translated C** returns the previous value of the bit and leaves it flipped -/
theorem c_dimension_bit_toggle {buf : List Nat} {dim row col k : Nat} (h : CellOK buf dim row col k) :
    ∃ r nb, dimEntryToggleBit (bufOf buf) row col dim = (r, [(hdrLen dim + k / 8, nb)]) ∧
      r = dimEntryGetBit (bufOf buf) row col dim ∧
      getBit (applyStores buf [(hdrLen dim + k / 8, nb)]) dim row col = some (!decide (r = 1)) := by
  obtain ⟨r, nb, h1, hr, h2⟩ := dimEntryToggleBit_eq h
  obtain ⟨g1, g2⟩ := dimEntryGetBit_eq h
  obtain ⟨a, b, _⟩ := dim_bit_toggle buf _ dim row col _ h2
  refine ⟨r, nb, h1, ?_, b⟩
  rw [g1] at a
  simp only [Option.some.injEq, decide_eq_decide] at a
  by_cases c : r = 1
  · have := a.mpr c; omega
  · have : ¬ dimEntryGetBit (bufOf buf) row col dim = 1 := fun e => c (a.mp e)
    omega

open Varint.Gen.C Varint.Bridge Varint.Bridge.Dim Varint.Bridge.Tagged in
/-- **unsigned entries of 1–8 bytes on the translated C** (float / double cells are the 4- / 8-byte case on their IEEE
    bits): after `varintDimensionPairEntrySetUnsigned` a `varintDimensionPairEntryGetUnsigned` of that cell returns the
    written value; the stores leave every header byte and the buffer length unchanged -/
theorem c_dimension_entry_set_get (buf : List Nat) (hb : ∀ b ∈ buf, b < 256) (dim row col v w k : Nat)
    (hlen : hdrLen dim ≤ buf.length) (hwr : rowWidthOf dim ≤ 8) (hidx : cellIndex buf dim row col = some k)
    (h1 : 1 ≤ w) (h8 : w ≤ 8) (hin : hdrLen dim + k * w + w ≤ buf.length) (h64 : buf.length < 2 ^ 64)
    (hv : v < 256 ^ w) :
    let out := applyStores buf (dimEntrySetUnsigned (bufOf buf) row col v w dim)
    dimEntryGetUnsigned (bufOf out) row col w dim = v ∧ out.take (hdrLen dim) = buf.take (hdrLen dim) ∧
      out.length = buf.length := by
  intro out
  have hset := dimEntrySetUnsigned_eq buf hb dim row col v w k hlen hwr hidx h1 h8 hin h64
  have hget := dim_cell_get_set buf out dim row col v w hv hset
  obtain ⟨_, _, hwa, hl, ht, hci⟩ := setEntry_some buf out dim row col v w hset
  have hbo := writeAt_bytes _ _ _ _ hwa hb (leBytes_lt w v)
  have := dimEntryGetUnsigned_eq out hbo dim row col w k (by rw [hl]; exact hlen) hwr (by rw [hci]; exact hidx) h1 h8
    (by rw [hl]; exact hin) (by rw [hl]; exact h64)
  rw [hget] at this
  simp only [Option.some.injEq] at this
  exact ⟨this.symm, ht, hl⟩

end Varint.Props.C10
