import Varint.Bridge.Elias
import Varint.Bridge.PFOR
import Varint.Bridge.Group
import Varint.Bridge.Delta
import Varint.Bridge.RLE
import Varint.Lemmas.Adaptive
import Varint.Bridge.Sizes
import Varint.Lemmas.FloatDec
import Varint.Lemmas.BP128
import Varint.Lemmas.Dict
import Varint.Lemmas.Elias
import Varint.Lemmas.PFOR
import Varint.Lemmas.Group
import Varint.Lemmas.Delta
import Varint.Lemmas.RLE
import Varint.Lemmas.FOR
/-
  C03 — encoders never write more than their advertised size.
  The model's encoders return exactly the bytes written, so "extent ≤ bound" is a statement about
  list lengths; the harness checks the same against a canary placed at the advertised size.
-/
namespace Varint.Props.C03
open Varint

theorem deltaU_extent_le_max (xs : List Nat) (hx : ∀ x ∈ xs, x < 2 ^ 64) :
    (Delta.encU xs).length ≤ Delta.maxSize xs.length := Delta.encU_length_le xs hx

theorem delta_extent_le_max (xs : List Nat) (hx : ∀ x ∈ xs, x < 2 ^ 64) :
    (Delta.encS xs).length ≤ Delta.maxSize xs.length := Delta.encS_length_le xs hx

/-- run-length: the size predictor is exact -/
theorem rle_size_exact (xs : List Nat) : (RLE.enc xs).length = RLE.size xs := RLE.enc_length xs

/-- run-length: both formats (headerless and with header) stay inside varintRLEMaxSize -/
theorem rle_extent_le_max (xs : List Nat) :
    (RLE.enc xs).length ≤ RLE.maxSize xs.length ∧ (RLE.encH xs).length ≤ RLE.maxSize xs.length := by
  have h := RLE.enc_le xs
  have hl := Tagged.len_bounds xs.length
  unfold RLE.maxSize RLE.encH
  rw [List.length_append, Tagged.enc_length]
  omega

/-- frame-of-reference: the size function is exact -/
theorem for_size_exact (xs : List Nat) :
    (FOR.enc xs).length = (FOR.analyze xs).encodedSize ∧
    (FOR.analyze xs).encodedSize = FOR.size (FOR.analyze xs).minValue xs.length (FOR.analyze xs).offsetWidth := by
  exact ⟨FOR.enc_length xs, rfl⟩


/-- group: the size predictor is exact, and bounded by 1 + 16 + 8·fields -/
theorem group_size_exact (xs : List Nat) (h : Group.Ok xs) :
    (Group.enc xs).length = Group.size xs ∧ Group.size xs ≤ 1 + 16 + 8 * xs.length :=
  ⟨Group.enc_length xs h, Group.size_le xs h⟩


/-- PFOR: the size predictor is an upper bound of the bytes written (exact without exceptions) -/
theorem pfor_extent_le_size (xs : List Nat) (g : PFOR.Good xs) (t : Nat) :
    (PFOR.enc xs t).length ≤ PFOR.size (PFOR.compute xs t) ∧
    ((PFOR.compute xs t).exceptionCount = 0 → (PFOR.enc xs t).length = PFOR.size (PFOR.compute xs t)) :=
  ⟨PFOR.enc_length_le_size xs g t, PFOR.enc_length_eq_size_of_no_exc xs t⟩


/-- Elias: the bytes written stay inside varintEliasGammaMaxBytes / DeltaMaxBytes -/
theorem elias_extent_le_max (xs : List Nat) (h : Elias.Pos64 xs) :
    (Elias.encGamma xs).length ≤ Elias.gammaMaxBytes xs.length ∧
    (Elias.encDelta xs).length ≤ Elias.deltaMaxBytes xs.length :=
  ⟨Elias.encGamma_length_le xs h, Elias.encDelta_length_le xs h⟩

/-- Elias: the code lengths are the model's `gammaBits` / `deltaBits` and ≤ 127 / ≤ 76 bits for 64-bit values -/
theorem elias_code_lengths (v : Nat) (h1 : 1 ≤ v) (h64 : v < 2 ^ 64) :
    (Elias.gamma v).length = Elias.gammaBits v ∧ (Elias.delta v).length = Elias.deltaBits v ∧
    Elias.gammaBits v ≤ 127 ∧ Elias.deltaBits v ≤ 76 :=
  ⟨Elias.gamma_length v, Elias.delta_length v, Elias.gammaBits_le v h64, Elias.deltaBits_le v h64⟩


/-- dictionary: the size predictor is exact (and 0 exactly when the encoder refuses) -/
theorem dict_size_exact (xs : List Nat) :
    (Dict.enc xs ≠ [] → (Dict.enc xs).length = Dict.size xs) ∧ (Dict.size xs = 0 ↔ Dict.enc xs = []) :=
  ⟨Dict.enc_length xs, Dict.size_eq_zero_iff xs⟩


/-- BP128: all four encoders stay inside varintBP128MaxBytes -/
theorem bp128_extent_le_max (xs : List Nat) (h : ∀ x ∈ xs, x < 2 ^ 64) :
    (BP128.enc32 xs).length ≤ BP128.maxBytes xs.length ∧ (BP128.enc64 xs).length ≤ BP128.maxBytes xs.length ∧
    (BP128.encD 32 xs).length ≤ BP128.maxBytes xs.length ∧ (BP128.encD 64 xs).length ≤ BP128.maxBytes xs.length :=
  ⟨BP128.enc32_length_le64 xs h, BP128.enc64_length_le xs h, BP128.encD32_length_le xs, BP128.encD64_length_le xs⟩


/-- float: the encoder stays inside varintFloatMaxEncodedSize — every precision byte, mode and array -/
theorem float_extent_le_max (p mode : Nat) (ds : List Nat) :
    (Float.enc p mode ds).length ≤ Float.maxSize ds.length p :=
  Float.enc_length_le p mode ds


/-! ## the advertised sizes are the C's own functions: `Varint.Gen.C.*` is regenerated from the current
    headers by tools/c2lean.py on every run; below 2^56 elements (no size_t wrap) they are the model's
    formulas, so a bound above by one of the functions listed in `c_sizing_functions` is a bound by what the C function
    returns (`Dict.size` has no translated counterpart; FOR, group and PFOR sizes are tied further below). -/

theorem c_sizing_functions (n : Nat) (h : n < 2 ^ 56) :
    Varint.Gen.C.rleMaxSize n = RLE.maxSize n ∧
    Varint.Gen.C.bp128MaxBytes n = BP128.maxBytes n ∧
    Varint.Gen.C.eliasGammaMaxBytes n = Elias.gammaMaxBytes n ∧
    Varint.Gen.C.eliasDeltaMaxBytes n = Elias.deltaMaxBytes n ∧
    Varint.Gen.C.deltaMaxEncodedSize n = Delta.maxSize n ∧
    Varint.Gen.C.adaptiveMaxSize n = Adaptive.maxSize n ∧
    (∀ p, Varint.Gen.C.floatMaxEncodedSize n p = Float.maxSize n p) ∧
    (n < 256 → Varint.Gen.C.groupBitmapSize n = Group.bitmapSize n) :=
  ⟨Varint.Bridge.Sizes.rleMaxSize_eq n (by omega), Varint.Bridge.Sizes.bp128MaxBytes_eq n (by omega),
   (Varint.Bridge.Sizes.eliasMaxBytes_eq n h).1, (Varint.Bridge.Sizes.eliasMaxBytes_eq n h).2,
   Varint.Bridge.Sizes.deltaMaxEncodedSize_eq n (by omega), Varint.Bridge.Sizes.adaptiveMaxSize_eq n (by omega),
   fun p => Varint.Bridge.Sizes.floatMaxEncodedSize_eq n p h, fun h8 => Varint.Bridge.Sizes.groupBitmapSize_eq n h8⟩

/-- varintFORSize of the C (fields of the metadata struct as arguments) is the model's size formula -/
theorem c_for_size (mn cnt w : Nat) (hmn : mn < 2 ^ 64) (hc : cnt < 2 ^ 56) (hw : w ≤ 8) :
    Varint.Gen.C.forSize mn cnt w = FOR.size mn cnt w :=
  Varint.Bridge.Sizes.forSize_eq mn cnt w hmn hc hw

/-- run-length stated against the C's function: the encoder's output never exceeds varintRLEMaxSize(count) -/
theorem c_rle_extent_le_max (xs : List Nat) (h : xs.length < 2 ^ 56) :
    (RLE.enc xs).length ≤ Varint.Gen.C.rleMaxSize xs.length ∧ (RLE.encH xs).length ≤ Varint.Gen.C.rleMaxSize xs.length := by
  rw [Varint.Bridge.Sizes.rleMaxSize_eq _ (by omega)]
  exact rle_extent_le_max xs


/-- **on the machine translation of src/varintRLE.c (loops included, regenerated every run)**: the encodedSize
    `varintRLEAnalyze` reports (which `varintRLESize` returns: `c_rle_size_exact`) is EXACTLY what `varintRLEEncode` returns, the
    encoder stores only bytes 0 … size-1 of the destination (each once, in increasing order), and that size is within
    the C's own `varintRLEMaxSize(count)`: a destination of exactly the predicted size is never overflowed.
    For every array of 64-bit values below 2^56 elements and every fuel ≥ count + 2 (so: the loops terminate). -/
theorem c_rle_encoder_within_predicted_size (xs : List Nat) (hx : ∀ x ∈ xs, x < 2 ^ 64) (hn : xs.length < 2 ^ 56)
    (given : Bool) (fuel : Nat) (hf : xs.length + 2 ≤ fuel) :
    ∃ n stores size m1 m2 m3 m4 b mc mr mu,
      Varint.Gen.C.rleEncode fuel (Varint.Bridge.Tagged.bufOf xs) xs.length given = some (n, m1, m2, m3, m4, stores) ∧
      Varint.Gen.C.rleAnalyze fuel (Varint.Bridge.Tagged.bufOf xs) xs.length = some (b, mc, mr, some size, mu) ∧
      n = size ∧ stores.map Prod.fst = List.range' 0 size ∧ size ≤ Varint.Gen.C.rleMaxSize xs.length := by
  refine ⟨_, _, RLE.size xs, _, _, _, _, _, _, _, _,
    Varint.Bridge.RLE.rleEncode_eq xs hx (by omega) given fuel hf,
    Varint.Bridge.RLE.rleAnalyze_eq xs hx (by omega) fuel (by omega), RLE.enc_length xs, ?_, ?_⟩
  · rw [Varint.Bridge.storesFrom_fst, RLE.enc_length]
  · rw [← RLE.enc_length]; exact (c_rle_extent_le_max xs hn).1

/-- **on the machine translation of `varintDeltaEncodeUnsigned`**: the encoder stores only below the length it
    returns, and that length is within the C's own `varintDeltaMaxEncodedSize(count)` -/
theorem c_delta_unsigned_within_max (xs : List Nat) (hx : ∀ x ∈ xs, x < 2 ^ 64) (hn : xs.length < 2 ^ 56) (fuel : Nat)
    (hf : xs.length + 9 ≤ fuel) :
    ∃ n stores, Varint.Gen.C.deltaEncodeUnsigned fuel (Varint.Bridge.Tagged.bufOf xs) xs.length = some (n, stores) ∧
      (∀ p ∈ stores, p.1 < n) ∧ n ≤ Varint.Gen.C.deltaMaxEncodedSize xs.length := by
  obtain ⟨stores, h1, h2⟩ := Varint.Bridge.Delta.deltaEncodeUnsigned_eq xs hx (by omega) fuel hf
  refine ⟨_, stores, h1, h2.2.2.1, ?_⟩
  rw [Varint.Bridge.Sizes.deltaMaxEncodedSize_eq _ (by omega)]
  exact Delta.encU_length_le xs hx

/-- adaptive: whatever is selected (every outcome of the float comparisons) fits varintAdaptiveMaxSize(count) -/
theorem adaptive_extent_le_max (φ : Adaptive.FloatPreds) (xs : List Nat) (hne : xs ≠ []) (hx : ∀ x ∈ xs, x < 2 ^ 64)
    (hn : xs.length < 2 ^ 32) :
    (Adaptive.encodeWith (Adaptive.selectWith φ (Adaptive.analyze xs)) xs).length ≤ Adaptive.maxSize xs.length :=
  Adaptive.adaptive_size_sel φ xs hne hx hn

example : (RLE.encH [2 ^ 64 - 1]).length = 11 ∧ RLE.maxSize 1 = 19 := by decide


/-- **the group size predictor on the translated C** (`varintGroupSize`, machine-translated with its nested width loop):
    for 1..64 fields of 64-bit values it returns exactly the number of bytes of the encoding, which is at most
    1 + 16 + 8·n; for 0 or more than 64 fields it returns 0. Every fuel ≥ n + 9. -/
theorem c_group_size_exact (xs : List Nat) (hx : ∀ x ∈ xs, x < 2 ^ 64) (h256 : xs.length < 256) (fuel : Nat)
    (hf : xs.length + 9 ≤ fuel) :
    Varint.Gen.C.groupSize fuel (Varint.Bridge.Tagged.bufOf xs) xs.length = some (Group.size xs) ∧
    (Group.Ok xs → Group.size xs = (Group.enc xs).length ∧ Group.size xs ≤ 1 + 16 + 8 * xs.length) ∧
    ((xs.length = 0 ∨ xs.length > 64) → Group.size xs = 0) := by
  refine ⟨Varint.Bridge.Group.groupSize_eq xs hx h256 fuel hf, ?_, ?_⟩
  · intro h
    obtain ⟨a, b⟩ := group_size_exact xs h
    exact ⟨a.symm, b⟩
  · intro h
    unfold Group.size
    rw [if_pos h]


/-- **the PFOR size predictor on the translated C** (`varintPFORSize`, its per-exception loop machine-translated): for
    the analysis of any good array it returns the model's advertised size, which bounds the bytes the encoder writes
    (exactness without exceptions: `pfor_extent_le_size`); `varintPFORCalculateMarker` on the analysed width returns the
    model's marker. -/
theorem c_pfor_size_bounds (xs : List Nat) (g : PFOR.Good xs) (t : Nat) (fuel : Nat) (hf : xs.length < fuel) :
    Varint.Gen.C.pforSize fuel (PFOR.compute xs t).min (PFOR.compute xs t).count (PFOR.compute xs t).width
        (PFOR.compute xs t).exceptionCount = some (PFOR.size (PFOR.compute xs t)) ∧
    (PFOR.enc xs t).length ≤ PFOR.size (PFOR.compute xs t) ∧
    Varint.Gen.C.pforMarker (PFOR.compute xs t).width = (PFOR.compute xs t).marker := by
  have f := PFOR.compute_facts xs g t
  have hlen : xs.length < 2 ^ 32 := g.2.1
  have hmin : (PFOR.compute xs t).min < 2 ^ 64 := g.2.2 _ f.min_mem
  refine ⟨?_, (pfor_extent_le_size xs g t).1, ?_⟩
  · exact Varint.Bridge.PFOR.pforSize_eq _ hmin (by rw [f.count_eq]; exact hlen) f.width_le
      (by have := f.exc_le; omega) fuel (by have := f.exc_le; omega)
  · rw [Varint.Bridge.PFOR.pforMarker_eq, f.marker_eq]


/-- **the Elias code-length functions on the translated C** (`floorLog2`'s shift loop, `varintEliasGammaBits`,
    `varintEliasDeltaBits`): for every value 1 ≤ v < 2^64 they return exactly the number of bits of the model's gamma /
    delta code, at most 127 / 76 — the per-value constants behind `varintEliasGammaMaxBytes` / `DeltaMaxBytes`. Fuel ≥ 65. -/
theorem c_elias_code_lengths (v : Nat) (h1 : 1 ≤ v) (h64 : v < 2 ^ 64) (fuel : Nat) (hf : 65 ≤ fuel) :
    Varint.Gen.C.eliasGammaBits fuel v = some (Elias.gamma v).length ∧
    Varint.Gen.C.eliasDeltaBits fuel v = some (Elias.delta v).length ∧
    (Elias.gamma v).length ≤ 127 ∧ (Elias.delta v).length ≤ 76 := by
  obtain ⟨a, b, c, d⟩ := elias_code_lengths v h1 h64
  obtain ⟨g1, g2⟩ := Varint.Bridge.Elias.eliasBits_eq v fuel h64 hf
  rw [a, b]
  exact ⟨g1, g2, c, d⟩


/-- **`varintRLESize` / `varintRLEIsBeneficial` on the translated C**: the advertised size is exactly the number of bytes
    of the encoding (the same number `varintRLEEncode` returns and stores, see `c_rle_encoder_within_predicted_size`), and
    the "beneficial" answer is true exactly when that is below the raw 8·n bytes -/
theorem c_rle_size_exact (xs : List Nat) (hx : ∀ x ∈ xs, x < 2 ^ 64) (hn : xs.length < 2 ^ 56) (fuel : Nat)
    (hf : xs.length + 1 ≤ fuel) :
    Varint.Gen.C.rleSize fuel (Varint.Bridge.Tagged.bufOf xs) xs.length = some (RLE.enc xs).length ∧
    Varint.Gen.C.rleIsBeneficial fuel (Varint.Bridge.Tagged.bufOf xs) xs.length =
      some (if xs ≠ [] ∧ (RLE.enc xs).length < 8 * xs.length then 1 else 0) := by
  have hl : (RLE.enc xs).length = RLE.size xs := RLE.enc_length xs
  rw [hl]
  exact ⟨Varint.Bridge.RLE.rleSize_eq xs hx (by omega) fuel hf,
    Varint.Bridge.RLE.rleIsBeneficial_eq xs hx (by omega) fuel hf⟩

end Varint.Props.C03
