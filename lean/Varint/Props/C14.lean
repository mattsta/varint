import Varint.Bridge.DictH
import Varint.Bridge.RLE
import Varint.Bridge.Tagged
import Varint.Lemmas.Fuel
import Varint.Lemmas.Bounded
import Varint.Lemmas.Elias
/- C14 — length-taking decoders stay inside their declared input.
   Memory model: the declared input is the list `bs` (byte count = `bs.length`; for the Elias decoders
   the bit source `declared bytes srcBits`, defined on exactly `srcBits` bits); loading anything at or
   beyond the declared size is the outcome `fault` / `none`. The theorems hold for EVERY byte list. -/
namespace Varint.Props.C14
open Varint Varint.Bounded Varint.Tagged

/-- bounded tagged reader: no load at index ≥ n, whatever the bytes -/
theorem tagged_reads_lt_n (bs : List Nat) (n : Int) (h : n ≤ bs.length) : getN bs n ≠ .fault :=
  getN_no_fault bs n h

/-- … and it never claims more bytes than it was given -/
theorem tagged_len_le_n (bs : List Nat) (n : Int) (v l : Nat) (h : getN bs n = .ok v l) : (l : Int) ≤ n :=
  (getN_ok_spec bs n v l h).2.1

/-- a successful bounded tagged read reports a width between 1 and 9 that is within the declared size and
    within the bytes really present -/
theorem tagged_bounded_width (bs : List Nat) (n : Int) (v w : Nat) (h : Tagged.getN bs n = .ok v w) :
    1 ≤ w ∧ (w : Int) ≤ n ∧ w ≤ 9 ∧ w ≤ bs.length :=
  getN_ok_spec bs n v w h

/-- "A tagged varint cut short of its announced length is reported as length 0" (and only then) -/
theorem tagged_short_is_zero (b0 : Nat) (rest : List Nat) (n : Int) (h : n ≤ (b0 :: rest).length)
    (hb : b0 ≤ 255) : getN (b0 :: rest) n = .short ↔ n < 1 ∨ n < (getLen b0 : Int) :=
  getN_short_iff b0 rest n h hb

/-- the C's bounded reader itself (translation regenerated from src/varintTagged.c on every run): whenever
    the declared size `n` does not exceed the bytes present, varintTaggedGet returns 0 and stores nothing
    exactly when the varint is cut short of its announced length, and otherwise returns a width ≤ n -/
theorem c_tagged_short_is_zero (b0 : Nat) (rest : List Nat) (n : Int) (h : n ≤ (b0 :: rest).length)
    (hb : ∀ b ∈ b0 :: rest, b < 256) :
    ((Varint.Gen.C.taggedGet (Varint.Bridge.Tagged.bufOf (b0 :: rest)) n = (0, none)) ↔
      (n < 1 ∨ n < (getLen b0 : Int))) ∧
    (∀ w v, Varint.Gen.C.taggedGet (Varint.Bridge.Tagged.bufOf (b0 :: rest)) n = (w, some v) → (w : Int) ≤ n ∧ 1 ≤ w) := by
  have hnf := getN_no_fault (b0 :: rest) n h
  have hbr := Varint.Bridge.Tagged.taggedGet_eq (b0 :: rest) n hb hnf
  have hshort := getN_short_iff b0 rest n h (by have := hb b0 (by simp); omega)
  constructor
  · rw [hbr, ← hshort]
    cases hg : getN (b0 :: rest) n with
    | fault => exact absurd hg hnf
    | short => simp
    | ok v l =>
      simp only []
      constructor
      · intro he; cases he
      · intro he; cases he
  · intro w v hw
    rw [hbr] at hw
    cases hg : getN (b0 :: rest) n with
    | fault => exact absurd hg hnf
    | short => rw [hg] at hw; cases hw
    | ok v' l =>
      rw [hg] at hw
      simp only [Prod.mk.injEq, Option.some.injEq] at hw
      obtain ⟨rfl, rfl⟩ := hw
      have := getN_ok_spec (b0 :: rest) n v' l hg
      exact ⟨this.2.1, this.1⟩

/-- both dictionary decoders: no load at or beyond `bufferLen` -/
theorem dict_reads_lt_n (bs : List Nat) (cap : Option Nat) : (dictDec bs cap).1 ≠ .fault :=
  (dictDec_safe bs cap).1.ne_fault

/-- every allocation request is bounded by a constant or by the input size: no hostile count reaches malloc -/
theorem dict_alloc_bounded (bs : List Nat) (cap : Option Nat) :
    ∀ a ∈ (dictDec bs cap).2, a ≤ 8 * Dict.maxDict ∨ a ≤ 8 * bs.length :=
  (dictDec_safe bs cap).2

/-- `varintDictDecodeInto` stores at most `maxValues` elements -/
theorem dict_out_le_cap (bs : List Nat) (c : Nat) (vs : List Nat) (h : (dictDec bs (some c)).1 = .ok vs) :
    vs.length ≤ c :=
  (dictDec_safe bs (some c)).1.of_ok h c rfl

/-- the bitmap deserialiser: no load at or beyond `len` -/
theorem bitmap_reads_lt_n (bs : List Nat) : (bitmapDec bs).1 ≠ .fault :=
  (bitmapDec_safe bs).1.ne_fault

/-- its allocation requests are bounded by a constant or by the input size: the untrusted 32-bit
    cardinality / run count never reaches malloc unchecked -/
theorem bitmap_alloc_bounded (bs : List Nat) : ∀ a ∈ (bitmapDec bs).2, a ≤ bitmapBytes ∨ a ≤ bs.length :=
  (bitmapDec_safe bs).2

/-- the RLE run counter: no load at or beyond `encodedSize` -/
theorem rle_count_reads_lt_n (bs : List Nat) : runCount bs ≠ .fault := by
  obtain ⟨r, hr⟩ := runCountAux_ok (bs.length + 1) bs
  unfold runCount
  rw [hr]
  exact nofun

/-- **on the machine translation of `varintRLEGetRunCount`** (regenerated from src/varintRLE.c on every run): for ANY
    byte string of the declared size — truncated, corrupt, hostile — the C terminates (every fuel above the size
    suffices) and returns the count of the bounded model, which never loads a byte at or beyond the declared size
    (`rle_count_reads_lt_n`); it reports a count, never an error or a crash -/
theorem c_rle_run_count_bounded (bs : List Nat) (hb : ∀ b ∈ bs, b < 256) (hlen : bs.length < 2 ^ 63) (fuel : Nat)
    (hf : bs.length < fuel) :
    ∃ r, runCount bs = .ok r ∧
      Varint.Gen.C.rleGetRunCount fuel (Varint.Bridge.Tagged.bufOf bs) bs.length = some r := by
  obtain ⟨r, hr⟩ := runCountAux_ok (bs.length + 1) bs
  exact ⟨r, hr, Varint.Bridge.RLE.rleGetRunCount_eq bs hb hlen fuel hf r hr⟩

/-- both Elias array decoders on `bytes` with `srcBits` declared bits (every bit at or beyond `srcBits` faults in the
    model): no such bit is ever loaded (for any bit source defined below its total: `Elias.gammaDec_ne_none`) -/
theorem elias_gamma_reads_lt_bits (bytes : List Nat) (srcBits cap : Nat) (h : srcBits ≤ 8 * bytes.length) :
    Elias.decGamma bytes srcBits cap ≠ none :=
  Elias.decArrayAux_ne_none _ _ _ (Elias.gammaDec_ne_none _ _ (Elias.declared_defined bytes srcBits h)) _ _

theorem elias_delta_reads_lt_bits (bytes : List Nat) (srcBits cap : Nat) (h : srcBits ≤ 8 * bytes.length) :
    Elias.decDelta bytes srcBits cap ≠ none :=
  Elias.decArrayAux_ne_none _ _ _ (Elias.deltaDec_ne_none _ _ (Elias.declared_defined bytes srcBits h)) _ _

/-- … and they store at most `maxCount` values -/
theorem elias_out_le_cap (bytes : List Nat) (srcBits cap : Nat) (vs : List Nat) :
    (Elias.decGamma bytes srcBits cap = some vs → vs.length ≤ cap) ∧
    (Elias.decDelta bytes srcBits cap = some vs → vs.length ≤ cap) :=
  ⟨Elias.decArrayAux_length _ _ _ _ _ _, Elias.decArrayAux_length _ _ _ _ _ _⟩

/-- non-vacuity: a hostile 5-byte bitmap header announcing 2^32-1 members is an error, with no large request -/
example : bitmapDec [0, 255, 255, 255, 255] = (.err, [24]) := by decide
example : (dictDec [255] none).1 = .err := by decide
example : runCount [3, 5, 249] = .ok 1 := by decide

/-! ## termination: the model's loops are bounded by explicit fuel; the fuel each top-level function passes is
    ADEQUATE for arbitrary bytes — more fuel never changes the answer, so running out of fuel is not a way the
    model can differ from the C's own loop exit. The section ends with the multiplication guard of the dictionary decoders (`c_dict_size_guard_exact`). -/

/-- run counter: fuel = number of input bytes + 1 (every counted run consumes ≥ 2 bytes) -/
theorem rle_runcount_fuel_adequate (bs : List Nat) (f : Nat) (hf : bs.length < f) :
    Bounded.runCountAux f bs bs.length = Bounded.runCount bs :=
  Bounded.runCount_fuel_suffices bs f hf

/-- Elias gamma: the zero counter stops at 63, so any fuel from 64 on is never exhausted -/
theorem elias_gamma_fuel_adequate (rd : Elias.Reader) (total f pos : Nat) (hf : 64 ≤ f) :
    Elias.gammaDecAux rd total f 0 pos = Elias.gammaDec rd total pos :=
  Elias.gammaDec_fuel_suffices rd total f pos hf

/-- run-length decoders and random access, arbitrary bytes -/
theorem rle_fuel_adequate (bs : List Nat) (cap total n1 i f : Nat) :
    (cap < f → RLE.decAux f cap bs = RLE.dec bs cap) ∧
    (bs.length < 2 * f → RLE.decHAux f 0 total cap (bs.drop n1) = RLE.decHAux (bs.length + total + 2) 0 total cap (bs.drop n1)) ∧
    (i + 1 < f → RLE.getAtAux f 0 i bs = RLE.getAt bs i) :=
  ⟨fun h => RLE.dec_fuel_suffices f cap bs h, fun h => RLE.decH_fuel_suffices bs total cap n1 f h,
   fun h => RLE.getAt_fuel_suffices f i bs h⟩

/-- the 32- and 64-bit BP128 decoders, arbitrary bytes (the 64-bit form's loop can meet blocks that announce 0 values: its fuel
    counts bytes as well as values) -/
theorem bp128_fuel_adequate (bs : List Nat) (cap cnt n1 f : Nat) :
    (cap / 128 < f → BP128.dec32Aux f cap bs = BP128.dec32 bs cap) ∧
    (Tagged.get bs = .ok cnt n1 → bs.length < f → BP128.dec64 bs cap = BP128.dec64Aux f (min cnt cap) (bs.drop n1)) :=
  ⟨fun h => BP128.dec32_fuel_suffices f cap bs h, fun hg h => BP128.dec64_fuel_suffices bs cap cnt n1 hg f h⟩

/-- the dictionary's binary search (`varintDictFind`) -/
theorem search_fuel_adequate (d : List Nat) (x f : Nat) (hf : d.length < f) :
    Dict.bsearch d.toArray x f 0 d.length = Dict.find d x :=
  Dict.find_fuel_suffices d x f hf

/-- **the overflow guard in front of the dictionary decoders' allocation sizes, on the translated C**
    (`size_mul_overflow` of src/varintDict.c): for all 64-bit operands it reports an overflow exactly when the true
    product does not fit 64 bits, so a size computed from an untrusted count is either refused or the mathematical
    product — never a wrapped, too-small request -/
theorem c_dict_size_guard_exact (a b : Nat) (ha : a < 2 ^ 64) (hb : b < 2 ^ 64) :
    (a * b < 2 ^ 64 → Varint.Gen.C.dictMulOverflow a b = (0, some (a * b))) ∧
    (2 ^ 64 ≤ a * b → (Varint.Gen.C.dictMulOverflow a b).1 = 1) := by
  have h := Varint.Bridge.DictH.dictMulOverflow_eq a b
  constructor
  · intro hlt
    rw [h, if_pos hlt, Nat.mod_eq_of_lt hlt]
  · intro hge
    rw [h, if_neg (by omega)]

end Varint.Props.C14
