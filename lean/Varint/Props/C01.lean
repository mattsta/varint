import Varint.Bridge.Chained
import Varint.Bridge.CSimple
import Varint.Bridge.External
import Varint.Bridge.ExtBE
import Varint.Bridge.ExtQ
import Varint.Bridge.W32
import Varint.Bridge.Split
import Varint.Bridge.Split16
import Varint.Bridge.SplitFull
import Varint.Bridge.ChainedW
import Varint.Lemmas.ChainedUnrolled
import Varint.Bridge.Tagged
import Varint.Lemmas.Tagged
import Varint.Lemmas.External
import Varint.Lemmas.Chained
import Varint.Lemmas.Split
/-
  C01 — scalar varints round-trip every value with agreeing, bounded lengths.
  Each family on the model and on the machine translation of its C (`c_*`).
-/
namespace Varint.Props.C01
open Varint

/-! ## tagged -/

/-- decode (encode v ++ anything) = (v, bytes written) for every 64-bit value -/
theorem tagged_roundtrip (v : Nat) (hv : v < 2 ^ 64) (rest : List Nat) :
    Tagged.get (Tagged.enc v ++ rest) = .ok v (Tagged.enc v).length :=
  Tagged.get_enc v hv rest

/-- bytes written = predicted length = length read from the first byte = quick-macro length,
    and the decoder's length (previous theorem) is the same number -/
theorem tagged_len_agree (v : Nat) (hv : v < 2 ^ 64) :
    (Tagged.enc v).length = Tagged.len v ∧
    Tagged.getLen ((Tagged.enc v).headD 0) = Tagged.len v ∧
    Tagged.lenQuick v = Tagged.len v :=
  ⟨Tagged.enc_length v, Tagged.getLen_head v hv, Tagged.lenQuick_eq v⟩

theorem tagged_len_bounds (v : Nat) : 1 ≤ Tagged.len v ∧ Tagged.len v ≤ 9 := Tagged.len_bounds v

theorem tagged_bytes_lt_256 (v : Nat) (hv : v < 2 ^ 64) : ∀ b ∈ Tagged.enc v, b < 256 := Tagged.enc_lt v


/-! ## the same statements about the C ITSELF: `Varint.Gen.C.*` is the translation of src/varintTagged.c
    regenerated by tools/c2lean.py from the current source on every run; `Varint.Bridge.Tagged` proves it equal
    to the model for all inputs. -/
section Code
open Varint.Gen.C Varint.Bridge.Tagged

/-- the bytes varintTaggedPut64 stores (in program order: indices 0,1,…,n-1, each once) -/
def cPut (x : Nat) : List Nat := (taggedPut64 x).2.map Prod.snd

/-- varintTaggedPut64 then varintTaggedGet(…, 9, …) on the stored bytes (any bytes may follow them):
    same value; the encoder's return value, the decoder's return value, varintTaggedLen and
    varintTaggedGetLen of the first byte all agree and lie in 1..9; the stores are exactly the bytes
    0..n-1, all below 256 -/
theorem c_tagged_roundtrip (x : Nat) (hx : x < 2 ^ 64) (rest : List Nat) (hrest : ∀ b ∈ rest, b < 256) :
    taggedGet (bufOf (cPut x ++ rest)) 9 = ((taggedPut64 x).1, some x) ∧
    (taggedPut64 x).1 = taggedLen x ∧
    taggedGetLen (bufOf (cPut x ++ rest)) = taggedLen x ∧
    1 ≤ taggedLen x ∧ taggedLen x ≤ 9 ∧
    (taggedPut64 x).2.map Prod.fst = List.range (taggedLen x) ∧
    ∀ b ∈ cPut x, b < 256 := by
  obtain ⟨h1, h2, h3⟩ := taggedPut64_eq x hx
  have hput : cPut x = Tagged.enc x := h2
  have hlen := taggedLen_eq x hx
  have hall : ∀ b ∈ Tagged.enc x ++ rest, b < 256 :=
    List.forall_mem_append.2 ⟨Tagged.enc_lt x, hrest⟩
  have hget := Tagged.get_enc x hx rest
  refine ⟨?_, by rw [h1, hlen], ?_, by rw [hlen]; exact (Tagged.len_bounds x).1,
    by rw [hlen]; exact (Tagged.len_bounds x).2, by rw [h3, hlen],
    by intro b hb; rw [hput] at hb; exact Tagged.enc_lt x b hb⟩
  · rw [hput, h1, taggedGet64_eq _ hall (by rw [hget]; intro h; cases h), hget, Tagged.enc_length]
  · rw [hput, hlen]
    have hne := Tagged.enc_ne_nil x
    cases he : Tagged.enc x with
    | nil => exact absurd he hne
    | cons a t =>
      have ha : a < 256 := Tagged.enc_lt x a (by rw [he]; simp)
      have h0 : bufOf (a :: t ++ rest) 0 = a := by simp [bufOf]
      rw [taggedGetLen_eq _ (by rw [h0]; exact ha), h0]
      have := Tagged.getLen_head x hx
      rw [he] at this
      simpa using this

/-- the fixed-width encoder, for EVERY width argument: its stores and return value are the model's -/
theorem c_tagged_fixed (x w : Nat) (hx : x < 2 ^ 64) :
    (taggedPut64FixedWidth x w).2.map Prod.snd = Tagged.encFixed x w ∧
    (taggedPut64FixedWidth x w).1 = (Tagged.encFixed x w).length :=
  ⟨(taggedPut64FixedWidth_eq x w).1, (taggedPut64FixedWidth_eq x w).2.1⟩

end Code

/-- legal fixed widths of the tagged family: the minimal width, or any width 4..9 not below it
    (widths 2 and 3 are offset encodings and cannot hold smaller values) -/
def taggedFixedLegal (v w : Nat) : Prop := w = Tagged.len v ∨ (4 ≤ w ∧ w ≤ 9 ∧ Tagged.len v ≤ w)

theorem tagged_fixed_roundtrip (v w : Nat) (hv : v < 2 ^ 64) (hw : taggedFixedLegal v w) (rest : List Nat) :
    Tagged.get (Tagged.encFixed v w ++ rest) = .ok v w := by
  rcases hw with h | ⟨h4, h9, hl⟩
  · subst h
    rw [Tagged.encFixed_len v hv, Tagged.get_enc v hv rest, Tagged.enc_length]
  · exact Tagged.get_encFixed_wide v w hv h4 h9 hl rest

/-- widths 2/3 really are illegal for smaller values: the code does not round-trip there -/
example : Tagged.get (Tagged.encFixed 5 2) ≠ .ok 5 2 := by decide

/-- quick macro forms = function forms -/
theorem tagged_quick_eq (v : Nat) (hv : v < 2 ^ 64) (rest : List Nat) :
    Tagged.getQuick (Tagged.enc v ++ rest) = some v ∧ Tagged.lenQuick v = Tagged.len v :=
  ⟨Tagged.getQuick_enc v hv rest, Tagged.lenQuick_eq v⟩

/-- non-vacuity: a 9-byte value meets the hypotheses and the statement is about real bytes -/
example : Tagged.enc (2 ^ 64 - 1) = [255, 255, 255, 255, 255, 255, 255, 255, 255] := by decide
example : Tagged.get (Tagged.enc 67824 ++ [7]) = .ok 67824 4 := by decide

/-- on the model: a 32-bit value round-trips through the 64-bit tagged format and the truncating read-back
    `*pResult = (uint32_t)iRes` keeps it (that the 32-bit entry points are the 64-bit ones is in `c_forms32`) -/
theorem tagged32_roundtrip (v : Nat) (hv : v < 2 ^ 32) (rest : List Nat) :
    Tagged.get (Tagged.enc v ++ rest) = .ok v (Tagged.enc v).length ∧ v % 2 ^ 32 = v :=
  ⟨Tagged.get_enc v (by omega) rest, Nat.mod_eq_of_lt hv⟩

/-! ## external (little and big endian): width is carried outside the bytes -/

theorem ext_roundtrip (v : Nat) (rest : List Nat) :
    External.get (External.enc v ++ rest) (External.enc v).length = some v := by
  rw [External.enc_length]; exact External.get_enc v rest

/-- **on the machine translation of src/varintExternal.c** (width loop, per-width unrolled copy through the byte view
    of the value, per-width load; little-endian host): for every 64-bit value `varintExternalPut` returns the minimal
    width 1..8, stores each of the bytes 0 … width-1 exactly once and nothing beyond, the memory it leaves is the minimal
    little-endian slice, and `varintExternalGet` of that memory with that width returns the value. Every fuel ≥ 8. -/
theorem c_external_roundtrip (v : Nat) (hv : v < 2 ^ 64) (fuel : Nat) (hf : 8 ≤ fuel) (mem : Nat → Nat)
    (hm : ∀ i, i < extLen v → mem i = (External.enc v).getD i 0) :
    ∃ stores, Varint.Gen.C.extPut fuel v = some (extLen v, stores) ∧
      Varint.Bridge.External.Writes stores (External.enc v) ∧ 1 ≤ extLen v ∧ extLen v ≤ 8 ∧
      Varint.Gen.C.extGet mem (extLen v) = v := by
  obtain ⟨stores, h1, h2⟩ := Varint.Bridge.External.extPut_eq v fuel hv hf
  refine ⟨stores, h1, h2, extLen_pos v, extLen_le_8 hv, ?_⟩
  obtain ⟨hlt, hmap⟩ := mem_eq_bytes (External.enc_length v) hm (External.enc_lt v)
  rw [Varint.Bridge.External.extGet_eq mem (extLen v) (extLen_pos v) (extLen_le_8 hv) hlt, hmap]
  exact ofLe_leBytes_of_lt (lt_pow_extLen v)

/-- the fixed-width form on the translated C: any width from the minimal one up to 8 round-trips -/
theorem c_external_fixed_roundtrip (v w : Nat) (hw : extLen v ≤ w) (h8 : w ≤ 8) (mem : Nat → Nat)
    (hm : ∀ i, i < w → mem i = (External.encFixed v w).getD i 0) :
    Varint.Bridge.External.Writes (Varint.Gen.C.extPutFixedWidth v w) (External.encFixed v w) ∧
    Varint.Gen.C.extGet mem w = v := by
  have h1 : 1 ≤ w := Nat.le_trans (extLen_pos v) hw
  refine ⟨Varint.Bridge.External.extPutFixedWidth_eq v w h1 h8, ?_⟩
  obtain ⟨hlt, hmap⟩ := mem_eq_bytes (leBytes_length w v) hm (leBytes_lt w v)
  rw [Varint.Bridge.External.extGet_eq mem w h1 h8 hlt, hmap]
  exact ofLe_leBytes_of_lt (lt_pow_of_extLen_le hw)

/-- **C01 for the external big-endian family on the code itself** (`varintExternalBigEndianPut` — width loop, reversed
    per-width copy, the 8-byte arm through `__builtin_bswap64` — and `varintExternalBigEndianGet`, machine-translated from
    src/varintExternalBigEndian.c): for every 64-bit value the put returns the minimal width 1..8, stores each of the
    bytes 0 … width-1 exactly once and nothing beyond, the memory it leaves is the minimal big-endian slice, and the get of
    that memory with that width returns the value. Every fuel ≥ 8. -/
theorem c_externalbe_roundtrip (v : Nat) (hv : v < 2 ^ 64) (fuel : Nat) (hf : 8 ≤ fuel) (mem : Nat → Nat)
    (hm : ∀ i, i < extLen v → mem i = (ExternalBE.enc v).getD i 0) :
    ∃ stores, Varint.Gen.C.extbePut fuel v = some (extLen v, stores) ∧
      Varint.Bridge.External.Writes stores (ExternalBE.enc v) ∧ 1 ≤ extLen v ∧ extLen v ≤ 8 ∧
      Varint.Gen.C.extbeGet mem (extLen v) = v := by
  obtain ⟨stores, h1, h2⟩ := Varint.Bridge.ExtBE.extbePut_eq v fuel hv hf
  refine ⟨stores, h1, h2, extLen_pos v, extLen_le_8 hv, ?_⟩
  obtain ⟨hlt, hmap⟩ := mem_eq_bytes (ExternalBE.enc_length v) hm (ExternalBE.enc_lt v)
  rw [Varint.Bridge.ExtBE.extbeGet_eq mem (extLen v) (extLen_pos v) (extLen_le_8 hv) hlt, hmap]
  exact ofBe_beBytes_of_lt (lt_pow_extLen v)

/-- the fixed-width big-endian form on the translated C: any width from the minimal one up to 8 round-trips -/
theorem c_externalbe_fixed_roundtrip (v w : Nat) (hw : extLen v ≤ w) (h8 : w ≤ 8) (mem : Nat → Nat)
    (hm : ∀ i, i < w → mem i = (ExternalBE.encFixed v w).getD i 0) :
    Varint.Bridge.External.Writes (Varint.Gen.C.extbePutFixedWidth v w) (ExternalBE.encFixed v w) ∧
    Varint.Gen.C.extbeGet mem w = v := by
  have h1 : 1 ≤ w := Nat.le_trans (extLen_pos v) hw
  refine ⟨Varint.Bridge.ExtBE.extbePutFixedWidth_eq v w h1 h8, ?_⟩
  obtain ⟨hlt, hmap⟩ := mem_eq_bytes (beBytes_length w v) hm (beBytes_lt w v)
  rw [Varint.Bridge.ExtBE.extbeGet_eq mem w h1 h8 hlt, hmap]
  exact ofBe_beBytes_of_lt (lt_pow_of_extLen_le hw)


/-- **the external quick macros on the translated C** (`varintExternalPutFixedWidthQuick_`, `varintExternalGetQuick_`,
    expanded from the CURRENT header with a low-precedence argument expression): for every width 1..8 the put macro
    leaves exactly the model's bytes `External.encFixed` — the little-endian slice of the WHOLE argument expression, each byte
    once, none beyond — and the get macro on those bytes returns the value when it fits the width -/
theorem c_external_quick_roundtrip (lo hi w : Nat) (h1 : 1 ≤ w) (h8 : w ≤ 8) (hfit : extLen (lo ||| hi) ≤ w)
    (rest : List Nat) (hr : ∀ b ∈ rest, b < 256) :
    Varint.Bridge.External.Writes (Varint.Gen.C.extPutFixedQuick lo hi w) (External.encFixed (lo ||| hi) w) ∧
    Varint.Gen.C.extGetQuick (Varint.Bridge.Tagged.bufOf (External.encFixed (lo ||| hi) w ++ rest)) w = (lo ||| hi) := by
  refine ⟨Varint.Bridge.ExtQ.extPutFixedQuick_eq lo hi w h1 h8, ?_⟩
  have hl : (External.encFixed (lo ||| hi) w).length = w := by unfold External.encFixed; simp
  have hb : ∀ b ∈ External.encFixed (lo ||| hi) w ++ rest, b < 256 :=
    List.forall_mem_append.2 ⟨leBytes_lt w _, hr⟩
  rw [Varint.Bridge.ExtQ.extGetQuick_eq _ hb w h1 h8 (by simp [hl])]
  rw [List.take_left' hl]
  unfold External.encFixed
  exact ofLe_leBytes_of_lt (lt_pow_of_extLen_le hfit)


/-- **the 32-bit convenience forms on the translated C**: `varintChainedSimpleEncode32` (unrolled) stores exactly the
    model's 64-bit encoding `ChainedSimple.enc v` for every 32-bit value, the 32-bit decoder (fallback path) returns the value and
    the length on them — whatever follows; `varintTaggedPutVarint32` is `varintTaggedPut64`, and
    `varintTaggedGetVarint32` returns what `varintTaggedGet` returns, cut to 32 bits -/
theorem c_forms32 (v : Nat) (hv : v < 2 ^ 32) (rest : List Nat) (hr : ∀ b ∈ rest, b < 256) (fuel : Nat)
    (hf : 10 ≤ fuel) :
    Varint.Gen.C.csEncode32 v = ((ChainedSimple.enc v).length, Varint.Bridge.storesFrom 0 (ChainedSimple.enc v)) ∧
    Varint.Gen.C.csDecode32Fallback fuel (Varint.Bridge.Tagged.bufOf (ChainedSimple.enc v ++ rest)) =
      some ((ChainedSimple.enc v).length, some v) ∧
    Varint.Gen.C.taggedPutVarint32 v = Varint.Gen.C.taggedPut64 v ∧
    (∀ z, Varint.Gen.C.taggedGetVarint32 z =
      ((Varint.Gen.C.taggedGet z 9).1, some (((Varint.Gen.C.taggedGet z 9).2).getD 0 % 2 ^ 32))) := by
  have he := ChainedSimple.enc32_eq v hv
  refine ⟨?_, ?_, Varint.Bridge.W32.taggedPutVarint32_eq v, Varint.Bridge.W32.taggedGetVarint32_eq⟩
  · rw [Varint.Bridge.W32.csEncode32_eq v hv, he]
  · have hb : ∀ b ∈ ChainedSimple.enc v ++ rest, b < 256 :=
      List.forall_mem_append.2 ⟨ChainedSimple.enc_lt v, hr⟩
    refine Varint.Bridge.W32.csDecode32Fallback_eq _ fuel v _ hb hf ?_
    unfold ChainedSimple.dec32
    rw [ChainedSimple.dec_enc v (by omega) rest]
    simp only [Option.map_some, Option.some.injEq, Prod.mk.injEq, and_true]
    omega

theorem ext_len_bounds (v : Nat) (hv : v < 2 ^ 64) :
    (External.enc v).length = extLen v ∧ 1 ≤ extLen v ∧ extLen v ≤ 8 :=
  ⟨External.enc_length v, External.len_bounds v hv⟩

theorem ext_bytes_lt_256 (v : Nat) : ∀ b ∈ External.enc v, b < 256 := External.enc_lt v

/-- every fixed width not below the minimal width round-trips; the minimal one is the plain encoding -/
theorem ext_fixed_roundtrip (v w : Nat) (hw : extLen v ≤ w) (rest : List Nat) :
    External.get (External.encFixed v w ++ rest) w = some v ∧ (External.encFixed v w).length = w ∧
    External.encFixed v (extLen v) = External.enc v :=
  ⟨External.get_encFixed v w hw rest, by simp [External.encFixed], rfl⟩

theorem extbe_roundtrip (v : Nat) (rest : List Nat) :
    ExternalBE.get (ExternalBE.enc v ++ rest) (ExternalBE.enc v).length = some v := by
  rw [ExternalBE.enc_length]; exact ExternalBE.get_enc v rest

theorem extbe_len_bounds (v : Nat) (hv : v < 2 ^ 64) :
    (ExternalBE.enc v).length = extLen v ∧ 1 ≤ extLen v ∧ extLen v ≤ 8 :=
  ⟨ExternalBE.enc_length v, External.len_bounds v hv⟩

theorem extbe_bytes_lt_256 (v : Nat) : ∀ b ∈ ExternalBE.enc v, b < 256 := ExternalBE.enc_lt v

theorem extbe_fixed_roundtrip (v w : Nat) (hw : extLen v ≤ w) (rest : List Nat) :
    ExternalBE.get (ExternalBE.encFixed v w ++ rest) w = some v ∧ (ExternalBE.encFixed v w).length = w :=
  ⟨ExternalBE.get_encFixed v w hw rest, by simp [ExternalBE.encFixed]⟩

/-- signed-storage helpers: every value representable (sign + magnitude) in the 24/40/48/56-bit field
    is restored, and the prepared value fits the field -/
theorem signed_roundtrip (w : Nat) (hw : w = 3 ∨ w = 5 ∨ w = 6 ∨ w = 7) (s : Int)
    (hlo : -(2 ^ (8 * w - 1) : Int) < s) (hhi : s < (2 ^ (8 * w - 1) : Int)) :
    External.restoreSigned w (External.prepareSigned w s) = s ∧ External.prepareSigned w s < 256 ^ w :=
  External.restore_prepare w (by omega) s hlo hhi

example : External.restoreSigned 5 (External.prepareSigned 5 (-5)) = -5 := by decide

/-! ## chained (sqlite3) and chained-simple (LEB128, 9-byte cap) -/

theorem chained_roundtrip (v : Nat) (hv : v < 2 ^ 64) (rest : List Nat) :
    Chained.dec (Chained.enc v ++ rest) = some (v, (Chained.enc v).length) := Chained.dec_enc v hv rest


/-- the hand-unrolled sqlite3 reader, transcribed statement by statement (32-bit temporaries a, b, s, the
    SLOT masks, the re-read of p[-4]: `ChainedU.getVarint`, which is what the correspondence runs against the C)
    equals the format-level reader on EVERY byte string, and so does the 32-bit macro path; hence the round
    trip holds for the literal reader -/
theorem chained_unrolled_eq (buf : List Nat) (hb : ∀ b ∈ buf, b < 256) :
    ChainedU.getVarint buf = Chained.dec buf ∧ ChainedU.getVarint32 buf = Chained.dec32 buf :=
  ⟨ChainedU.getVarint_eq_dec buf hb, ChainedU.getVarint32_eq_dec32 buf hb⟩

theorem chained_unrolled_roundtrip (v : Nat) (hv : v < 2 ^ 64) (rest : List Nat) (hr : ∀ b ∈ rest, b < 256) :
    ChainedU.getVarint (Chained.enc v ++ rest) = some (v, (Chained.enc v).length) :=
  ChainedU.getVarint_enc v hv rest hr


/-- the C's unrolled reader ITSELF (machine translation `Varint.Gen.C.chainedGetVarint`, regenerated from
    src/varintChained.c on every run): it round-trips every 64-bit value -/
theorem c_chained_get_roundtrip (v : Nat) (hv : v < 2 ^ 64) (rest : List Nat) (hr : ∀ b ∈ rest, b < 256) :
    Varint.Gen.C.chainedGetVarint (Varint.Bridge.Tagged.bufOf (Chained.enc v ++ rest)) = ((Chained.enc v).length, some v) :=
  Varint.Bridge.Chained.chainedGetVarint_enc v hv rest hr

/-- **writer and reader both machine-translated**: `varintChainedPutVarint` (fast paths + `putVarint64` with its three
    loops and local staging array) leaves the model's bytes — each index below the returned length stored once, none
    beyond —, the hand-unrolled `varintChainedGetVarint` reads the value back from them whatever follows, and
    `varintChainedVarintLen` predicts the same length (1..9). Every 64-bit value, every fuel ≥ 10. -/
theorem c_chained_roundtrip (v : Nat) (hv : v < 2 ^ 64) (rest : List Nat) (hr : ∀ b ∈ rest, b < 256) (fuel : Nat)
    (hf : 10 ≤ fuel) :
    ∃ stores, Varint.Gen.C.chainedPutVarint fuel v = some (Chained.len v, stores) ∧
      Varint.Bridge.External.Writes stores (Chained.enc v) ∧
      Varint.Gen.C.chainedGetVarint (Varint.Bridge.Tagged.bufOf (Chained.enc v ++ rest)) = (Chained.len v, some v) ∧
      Varint.Gen.C.chainedVarintLen fuel v = some (Chained.len v) ∧ 1 ≤ Chained.len v ∧ Chained.len v ≤ 9 := by
  obtain ⟨stores, h1, h2⟩ := Varint.Bridge.ChainedW.chainedPutVarint_eq v fuel hv hf
  have hl := Chained.enc_length v hv
  refine ⟨stores, by rw [h1, hl], h2, ?_, Varint.Bridge.ChainedW.chainedVarintLen_eq v fuel hv hf,
    (Chained.len_bounds v).1, (Chained.len_bounds v).2⟩
  rw [← hl]
  exact Varint.Bridge.Chained.chainedGetVarint_enc v hv rest hr

/-- the unrolled reader returns what the format-level reader returns on every byte string on which that reader
    returns a value -/
theorem c_chained_get_eq_format (buf : List Nat) (hb : ∀ b ∈ buf, b < 256) (v l : Nat)
    (h : Chained.dec buf = some (v, l)) :
    Varint.Gen.C.chainedGetVarint (Varint.Bridge.Tagged.bufOf buf) = (l, some v) :=
  Varint.Bridge.Chained.chainedGetVarint_eq_dec buf hb v l h

/-- the raw 32-bit function round-trips on its documented domain (first byte flagged: 128 ≤ v < 2^32) -/
theorem c_chained_get32_roundtrip (v : Nat) (hlo : 128 ≤ v) (hv : v < 2 ^ 32) (rest : List Nat)
    (hr : ∀ b ∈ rest, b < 256) :
    Varint.Gen.C.chainedGetVarint32 (Varint.Bridge.Tagged.bufOf (Chained.enc v ++ rest)) = ((Chained.enc v).length, some v) :=
  Varint.Bridge.Chained.chainedGetVarint32_enc v hlo hv rest hr

theorem chained_len_agree (v : Nat) (hv : v < 2 ^ 64) :
    (Chained.enc v).length = Chained.len v ∧ 1 ≤ Chained.len v ∧ Chained.len v ≤ 9 :=
  ⟨Chained.enc_length v hv, Chained.len_bounds v⟩

theorem chained_bytes_lt_256 (v : Nat) : ∀ b ∈ Chained.enc v, b < 256 := Chained.enc_lt v

/-- 32-bit reader: exact for 32-bit values (it saturates above, which the property excludes) -/
theorem chained32_roundtrip (v : Nat) (hv : v < 2 ^ 32) (rest : List Nat) :
    Chained.dec32 (Chained.enc v ++ rest) = some (v, (Chained.enc v).length) := by
  unfold Chained.dec32
  rw [Chained.dec_enc v (by omega) rest]
  have : ¬ v ≥ 2 ^ 32 := by omega
  simp [this]

theorem csimple_roundtrip (v : Nat) (hv : v < 2 ^ 64) (rest : List Nat) :
    ChainedSimple.dec (ChainedSimple.enc v ++ rest) = some (v, (ChainedSimple.enc v).length) :=
  ChainedSimple.dec_enc v hv rest

theorem csimple_len_agree (v : Nat) :
    (ChainedSimple.enc v).length = ChainedSimple.len v ∧ 1 ≤ ChainedSimple.len v ∧ ChainedSimple.len v ≤ 9 :=
  ⟨ChainedSimple.enc_length v, ChainedSimple.len_bounds v⟩

/-- **on the machine translation of src/varintChainedSimple.c (loops included, regenerated every run)**:
    `varintChainedSimpleEncode64` then `varintChainedSimpleDecode64` returns the value for every 64-bit value,
    whatever follows in the buffer; the encoder's return value, the decoder's return value and
    `varintChainedSimpleLength` are the same number in 1..9; the encoder stores exactly bytes 0..n-1, each once,
    in increasing order. Holds for every fuel ≥ 10, i.e. the loops terminate within ten iterations. -/
theorem c_csimple_roundtrip (v : Nat) (hv : v < 2 ^ 64) (rest : List Nat) (hr : ∀ b ∈ rest, b < 256) (fuel : Nat)
    (hf : 10 ≤ fuel) :
    ∃ n stores, Varint.Gen.C.csEncode64 fuel v = some (n, stores) ∧
      stores.map Prod.fst = List.range' 0 n ∧ (∀ b ∈ stores.map Prod.snd, b < 256) ∧
      Varint.Gen.C.csDecode64 fuel (Varint.Bridge.Tagged.bufOf (stores.map Prod.snd ++ rest)) = some (n, some v) ∧
      Varint.Gen.C.csLength fuel v = some n ∧ 1 ≤ n ∧ n ≤ 9 := by
  refine ⟨(ChainedSimple.enc v).length, Varint.Bridge.storesFrom 0 (ChainedSimple.enc v),
    Varint.Bridge.CSimple.csEncode64_eq v fuel (by omega), ?_, ?_, ?_, ?_, ?_⟩
  · rw [Varint.Bridge.storesFrom_fst]
  · rw [Varint.Bridge.storesFrom_snd]; exact ChainedSimple.enc_lt v
  · rw [Varint.Bridge.storesFrom_snd]
    exact Varint.Bridge.CSimple.csDecode64_eq _ fuel v _
      (List.forall_mem_append.2 ⟨ChainedSimple.enc_lt v, hr⟩) hf (ChainedSimple.dec_enc v hv rest)
  · rw [Varint.Bridge.CSimple.csLength_eq v fuel hv hf, ChainedSimple.enc_length v]
  · rw [ChainedSimple.enc_length v]; exact ChainedSimple.len_bounds v

theorem csimple_bytes_lt_256 (v : Nat) : ∀ b ∈ ChainedSimple.enc v, b < 256 := ChainedSimple.enc_lt v

/-- the unrolled 32-bit encoder writes the same bytes; the 32-bit decoder truncates a value that fits -/
theorem csimple32_roundtrip (v : Nat) (hv : v < 2 ^ 32) (rest : List Nat) :
    ChainedSimple.enc32 v = ChainedSimple.enc v ∧
    ChainedSimple.dec32 (ChainedSimple.enc32 v ++ rest) = some (v, (ChainedSimple.enc32 v).length) := by
  refine ⟨ChainedSimple.enc32_eq v hv, ?_⟩
  unfold ChainedSimple.dec32
  rw [ChainedSimple.enc32_eq v hv, ChainedSimple.dec_enc v (by omega) rest]
  simp [Nat.mod_eq_of_lt hv]

/-! ## the four split families (forward layouts; reversed layouts of split, split-full and no-zero) -/

theorem split_roundtrip (v : Nat) (hv : v < 2 ^ 64) (rest : List Nat) :
    Split.S.dec (Split.S.enc v ++ rest) = some (v, (Split.S.enc v).length) := Split.S.dec_enc v hv rest
/-- **on the machine translation of the statement macros of src/varintSplit.h** (expanded by clang inside
    harness/vw_split.c from the CURRENT headers, incl. the width loop and the external put/get they call): for every
    64-bit value `varintSplitPut_` reports the model's length, leaves the model's bytes (each stored once, none beyond),
    `varintSplitGet_` on those bytes — whatever follows — returns the value and the same length, and
    `varintSplitLength_` / `varintSplitGetLen_` give that length too (1..9). Every fuel ≥ 8. -/
theorem c_split_roundtrip (v : Nat) (hv : v < 2 ^ 64) (rest : List Nat) (hr : ∀ b ∈ rest, b < 256) (fuel : Nat)
    (hf : 8 ≤ fuel) :
    ∃ stores, Varint.Gen.C.splitPut fuel v = some (Split.S.len v, stores) ∧
      Varint.Bridge.External.Writes stores (Split.S.enc v) ∧
      Varint.Gen.C.splitGet (Varint.Bridge.Tagged.bufOf (Split.S.enc v ++ rest)) = (Split.S.len v, some v) ∧
      Varint.Gen.C.splitLength fuel v = some (Split.S.len v) ∧
      Varint.Gen.C.splitGetLen (Varint.Bridge.Tagged.bufOf (Split.S.enc v ++ rest)) = Split.S.len v ∧
      1 ≤ Split.S.len v ∧ Split.S.len v ≤ 9 := by
  obtain ⟨stores, h1, h2⟩ := Varint.Bridge.Split.splitPut_eq v fuel hv hf
  have hb : ∀ b ∈ Split.S.enc v ++ rest, b < 256 :=
    List.forall_mem_append.2 ⟨Split.S.enc_lt v hv, hr⟩
  have hlen := Split.S.enc_length v
  have hbd := Split.S.len_bounds v hv
  have hb0 : Varint.Bridge.Tagged.bufOf (Split.S.enc v ++ rest) 0 = (Split.S.enc v).headD 0 :=
    getD_zero_append (by omega) rest
  refine ⟨stores, h1, h2, ?_, Varint.Bridge.Split.splitLength_eq v fuel hv hf, ?_, hbd.1, hbd.2⟩
  · exact Varint.Bridge.Split.splitGet_eq _ hb v _ (Split.S.var_head v hv rest) (hlen ▸ Split.S.dec_enc v hv rest)
  · rw [Varint.Bridge.Split.splitGetLen_eq _ (Varint.Bridge.Tagged.bufOf_lt _ hb 0), hb0,
      (Split.S.getLen_head v hv).1]


/-- **on the machine translation of the statement macros of src/varintSplitFull16.h** (expanded by clang inside
    harness/vw_split.c from the CURRENT headers): for every 64-bit value `varintSplitFull16Put_` reports the model's length
    (2..9), leaves the model's bytes (each stored once, none beyond), `varintSplitFull16Get_` on those bytes — whatever
    follows — returns the value and the same length, and `Length_` / `GetLen_` / `GetLenQuick_` give that length too.
    Every fuel ≥ 8. -/
theorem c_split16_roundtrip (v : Nat) (hv : v < 2 ^ 64) (rest : List Nat) (hr : ∀ b ∈ rest, b < 256) (fuel : Nat)
    (hf : 8 ≤ fuel) :
    ∃ stores, Varint.Gen.C.split16Put fuel v = some (Split.S16.len v, stores) ∧
      Varint.Bridge.External.Writes stores (Split.S16.enc v) ∧
      Varint.Gen.C.split16Get (Varint.Bridge.Tagged.bufOf (Split.S16.enc v ++ rest)) = (Split.S16.len v, some v) ∧
      Varint.Gen.C.split16Length fuel v = some (Split.S16.len v) ∧
      Varint.Gen.C.split16GetLen (Varint.Bridge.Tagged.bufOf (Split.S16.enc v ++ rest)) = Split.S16.len v ∧
      Varint.Gen.C.split16GetLenQuick (Varint.Bridge.Tagged.bufOf (Split.S16.enc v ++ rest)) = Split.S16.len v ∧
      2 ≤ Split.S16.len v ∧ Split.S16.len v ≤ 9 := by
  obtain ⟨stores, h1, h2⟩ := Varint.Bridge.Split16.split16Put_eq v fuel hv hf
  have hb : ∀ b ∈ Split.S16.enc v ++ rest, b < 256 :=
    List.forall_mem_append.2 ⟨Split.S16.full.enc_lt v hv, hr⟩
  have hlen := Split.S16.full.enc_length v
  have hbd := Split.S16.full.len_bounds v hv
  have hhead := Split.S16.full.getLen_head v hv
  have hb0 : Varint.Bridge.Tagged.bufOf (Split.S16.enc v ++ rest) 0 = (Split.S16.enc v).headD 0 :=
    getD_zero_append (by omega) rest
  obtain ⟨g1, g2⟩ := Varint.Bridge.Split16.split16GetLen_eq _ (Varint.Bridge.Tagged.bufOf_lt _ hb 0)
  refine ⟨stores, h1, h2, ?_, Varint.Bridge.Split16.split16Length_eq v fuel hv hf, ?_, ?_, hbd.1, hbd.2⟩
  · exact Varint.Bridge.Split16.split16Get_eq _ hb v _ (Split.S16.full.var_head v hv rest)
      (hlen ▸ Split.S16.full.dec_enc v hv (Nat.zero_le v) rest)
  · rw [g1, hb0, hhead.1]
  · rw [g2, hb0, hhead.2]


/-- **on the machine translation of the statement macros of src/varintSplitFull.h** (expanded by clang inside
    harness/vw_split.c from the CURRENT headers): for every 64-bit value the put macro reports the model's length (1..9),
    leaves the model's bytes (each stored once, none beyond), the get macro on those bytes — whatever follows — returns the
    value and the same length, and Length_ / GetLen_ / GetLenQuick_ give that length too. Every fuel ≥ 8. -/
theorem c_splitfull_roundtrip (v : Nat) (hv : v < 2 ^ 64) (rest : List Nat) (hr : ∀ b ∈ rest, b < 256) (fuel : Nat)
    (hf : 8 ≤ fuel) :
    ∃ stores, Varint.Gen.C.splitFullPut fuel v = some (Split.F.len v, stores) ∧
      Varint.Bridge.External.Writes stores (Split.F.enc v) ∧
      Varint.Gen.C.splitFullGet (Varint.Bridge.Tagged.bufOf (Split.F.enc v ++ rest)) = (Split.F.len v, some v) ∧
      Varint.Gen.C.splitFullLength fuel v = some (Split.F.len v) ∧
      Varint.Gen.C.splitFullGetLen (Varint.Bridge.Tagged.bufOf (Split.F.enc v ++ rest)) = Split.F.len v ∧
      Varint.Gen.C.splitFullGetLenQuick (Varint.Bridge.Tagged.bufOf (Split.F.enc v ++ rest)) = Split.F.len v ∧
      1 ≤ Split.F.len v ∧ Split.F.len v ≤ 9 := by
  obtain ⟨stores, h1, h2⟩ := Varint.Bridge.SplitFull.splitFullPut_eq v fuel hv hf
  have hb : ∀ b ∈ Split.F.enc v ++ rest, b < 256 :=
    List.forall_mem_append.2 ⟨Split.F.full.enc_lt v hv, hr⟩
  have hlen := Split.F.full.enc_length v
  have hbd := Split.F.full.len_bounds v hv
  have hhead := Split.F.full.getLen_head v hv
  have hb0 : Varint.Bridge.Tagged.bufOf (Split.F.enc v ++ rest) 0 = (Split.F.enc v).headD 0 :=
    getD_zero_append (by omega) rest
  obtain ⟨g1, g2⟩ := Varint.Bridge.SplitFull.splitFullGetLen_eq _ (Varint.Bridge.Tagged.bufOf_lt _ hb 0)
  refine ⟨stores, h1, h2, ?_, Varint.Bridge.SplitFull.splitFullLength_eq v fuel hv hf, ?_, ?_, hbd.1, hbd.2⟩
  · exact Varint.Bridge.SplitFull.splitFullGet_eq _ hb v _ (Split.F.full.var_head v hv rest)
      (hlen ▸ Split.F.full.dec_enc v hv (Nat.zero_le v) rest)
  · rw [g1, hb0, hhead.1]
  · rw [g2, hb0, hhead.2]

/-- **on the machine translation of the statement macros of src/varintSplitFullNoZero.h** (expanded by clang inside
    harness/vw_split.c from the CURRENT headers): for every 64-bit value ≥ 1 the put macro reports the model's length (1..9),
    leaves the model's bytes (each stored once, none beyond), the get macro on those bytes — whatever follows — returns the
    value and the same length, and Length_ / GetLen_ / GetLenQuick_ give that length too. Every fuel ≥ 8. -/
theorem c_splitnz_roundtrip (v : Nat) (hv : v < 2 ^ 64) (hz : 1 ≤ v) (rest : List Nat) (hr : ∀ b ∈ rest, b < 256) (fuel : Nat)
    (hf : 8 ≤ fuel) :
    ∃ stores, Varint.Gen.C.splitNZPut fuel v = some (Split.NZ.len v, stores) ∧
      Varint.Bridge.External.Writes stores (Split.NZ.enc v) ∧
      Varint.Gen.C.splitNZGet (Varint.Bridge.Tagged.bufOf (Split.NZ.enc v ++ rest)) = (Split.NZ.len v, some v) ∧
      Varint.Gen.C.splitNZLength fuel v = some (Split.NZ.len v) ∧
      Varint.Gen.C.splitNZGetLen (Varint.Bridge.Tagged.bufOf (Split.NZ.enc v ++ rest)) = Split.NZ.len v ∧
      Varint.Gen.C.splitNZGetLenQuick (Varint.Bridge.Tagged.bufOf (Split.NZ.enc v ++ rest)) = Split.NZ.len v ∧
      1 ≤ Split.NZ.len v ∧ Split.NZ.len v ≤ 9 := by
  obtain ⟨stores, h1, h2⟩ := Varint.Bridge.SplitFull.splitNZPut_eq v fuel hv hz hf
  have hb : ∀ b ∈ Split.NZ.enc v ++ rest, b < 256 :=
    List.forall_mem_append.2 ⟨Split.NZ.full.enc_lt v hv, hr⟩
  have hlen := Split.NZ.full.enc_length v
  have hbd := Split.NZ.full.len_bounds v hv
  have hhead := Split.NZ.full.getLen_head v hv
  have hb0 : Varint.Bridge.Tagged.bufOf (Split.NZ.enc v ++ rest) 0 = (Split.NZ.enc v).headD 0 :=
    getD_zero_append (by omega) rest
  obtain ⟨g1, g2⟩ := Varint.Bridge.SplitFull.splitNZGetLen_eq _ (Varint.Bridge.Tagged.bufOf_lt _ hb 0)
  refine ⟨stores, h1, h2, ?_, Varint.Bridge.SplitFull.splitNZLength_eq v fuel hv hf, ?_, ?_, hbd.1, hbd.2⟩
  · exact Varint.Bridge.SplitFull.splitNZGet_eq _ hb v _ (Split.NZ.full.var_head v hv rest)
      (hlen ▸ Split.NZ.full.dec_enc v hv hz rest)
  · rw [g1, hb0, hhead.1]
  · rw [g2, hb0, hhead.2]

theorem split_len_agree (v : Nat) (hv : v < 2 ^ 64) :
    (Split.S.enc v).length = Split.S.len v ∧ Split.S.getLen ((Split.S.enc v).headD 0) = Split.S.len v ∧
    Split.S.getLenQuick ((Split.S.enc v).headD 0) = Split.S.len v ∧ 1 ≤ Split.S.len v ∧ Split.S.len v ≤ 9 :=
  ⟨Split.S.enc_length v, (Split.S.getLen_head v hv).1, (Split.S.getLen_head v hv).2, Split.S.len_bounds v hv⟩
theorem split_bytes_lt_256 (v : Nat) (hv : v < 2 ^ 64) : ∀ b ∈ Split.S.enc v, b < 256 := Split.S.enc_lt v hv
/-- reversed layout (type byte last, payload at lower addresses), with anything before it -/
theorem split_rev_roundtrip (v : Nat) (hv : v < 2 ^ 64) (pre : List Nat) :
    Split.S.decRev (pre ++ Split.S.encRev v) = some (v, Split.S.len v) ∧ (Split.S.encRev v).length = Split.S.len v :=
  ⟨Split.S.decRev_encRev v hv pre, Split.S.encRev_length v⟩

theorem sfull_roundtrip (v : Nat) (hv : v < 2 ^ 64) (rest : List Nat) :
    Split.F.dec (Split.F.enc v ++ rest) = some (v, (Split.F.enc v).length) := Split.F.full.dec_enc v hv (Nat.zero_le v) rest
theorem sfull_len_agree (v : Nat) (hv : v < 2 ^ 64) :
    (Split.F.enc v).length = Split.F.len v ∧ Split.F.getLen ((Split.F.enc v).headD 0) = Split.F.len v ∧
    Split.F.getLenQuick ((Split.F.enc v).headD 0) = Split.F.len v ∧ 1 ≤ Split.F.len v ∧ Split.F.len v ≤ 9 :=
  ⟨Split.F.full.enc_length v, (Split.F.full.getLen_head v hv).1, (Split.F.full.getLen_head v hv).2, Split.F.full.len_bounds v hv⟩
theorem sfull_bytes_lt_256 (v : Nat) (hv : v < 2 ^ 64) : ∀ b ∈ Split.F.enc v, b < 256 := Split.F.full.enc_lt v hv
theorem sfull_rev_roundtrip (v : Nat) (hv : v < 2 ^ 64) (pre : List Nat) :
    Split.F.decRev (pre ++ Split.F.encRev v) = some (v, Split.F.len v) ∧ (Split.F.encRev v).length = Split.F.len v :=
  ⟨Split.F.full.decRev_encRev Split.F.fullRev v hv (Nat.zero_le v) pre, Split.F.full.encRev_length Split.F.fullRev v⟩

/-- no-zero family: every non-zero value -/
theorem snz_roundtrip (v : Nat) (hv : v < 2 ^ 64) (hz : 1 ≤ v) (rest : List Nat) :
    Split.NZ.dec (Split.NZ.enc v ++ rest) = some (v, (Split.NZ.enc v).length) := Split.NZ.full.dec_enc v hv hz rest
theorem snz_len_agree (v : Nat) (hv : v < 2 ^ 64) (hz : 1 ≤ v) :
    (Split.NZ.enc v).length = Split.NZ.len v ∧ Split.NZ.getLen ((Split.NZ.enc v).headD 0) = Split.NZ.len v ∧
    Split.NZ.getLenQuick ((Split.NZ.enc v).headD 0) = Split.NZ.len v ∧ 1 ≤ Split.NZ.len v ∧ Split.NZ.len v ≤ 9 :=
  ⟨Split.NZ.full.enc_length v, (Split.NZ.full.getLen_head v hv).1, (Split.NZ.full.getLen_head v hv).2, Split.NZ.full.len_bounds v hv⟩
theorem snz_bytes_lt_256 (v : Nat) (hv : v < 2 ^ 64) : ∀ b ∈ Split.NZ.enc v, b < 256 := Split.NZ.full.enc_lt v hv
theorem snz_rev_roundtrip (v : Nat) (hv : v < 2 ^ 64) (hz : 1 ≤ v) (pre : List Nat) :
    Split.NZ.decRev (pre ++ Split.NZ.encRev v) = some (v, Split.NZ.len v) ∧ (Split.NZ.encRev v).length = Split.NZ.len v :=
  ⟨Split.NZ.full.decRev_encRev Split.NZ.fullRev v hv hz pre, Split.NZ.full.encRev_length Split.NZ.fullRev v⟩

/-- split-full-16 -/
theorem s16_roundtrip (v : Nat) (hv : v < 2 ^ 64) (rest : List Nat) :
    Split.S16.dec (Split.S16.enc v ++ rest) = some (v, (Split.S16.enc v).length) := Split.S16.full.dec_enc v hv (Nat.zero_le v) rest
/-- split-full-16 lengths agree and are 2 to 9 bytes -/
theorem s16_len_agree (v : Nat) (hv : v < 2 ^ 64) :
    (Split.S16.enc v).length = Split.S16.len v ∧ Split.S16.getLen ((Split.S16.enc v).headD 0) = Split.S16.len v ∧
    Split.S16.getLenQuick ((Split.S16.enc v).headD 0) = Split.S16.len v ∧ 2 ≤ Split.S16.len v ∧ Split.S16.len v ≤ 9 :=
  ⟨Split.S16.full.enc_length v, (Split.S16.full.getLen_head v hv).1, (Split.S16.full.getLen_head v hv).2, Split.S16.full.len_bounds v hv⟩
theorem s16_bytes_lt_256 (v : Nat) (hv : v < 2 ^ 64) : ∀ b ∈ Split.S16.enc v, b < 256 := Split.S16.full.enc_lt v hv

/-- non-vacuity: concrete values of the split families -/
example : Split.S.dec (Split.S.enc 16447 ++ [9]) = some (16447, 2) := by decide
example : Split.F.enc 4210750 = [194, 1, 0] := by decide
example : Split.NZ.dec (Split.NZ.enc 1) = some (1, 1) := by decide
example : Split.S16.enc 1077952510 = [196, 1, 0, 0, 0] := by decide
example : Chained.enc (2 ^ 56) = [128, 192, 128, 128, 128, 128, 128, 128, 0] := by decide

end Varint.Props.C01
