import Varint.Bridge.BP
import Varint.Bridge.Delta
import Varint.Bridge.RLEDec
import Varint.Bridge.FORDec
import Varint.Bridge.Group
import Varint.Bridge.RLE
import Varint.Bridge.Sizes
import Varint.Lemmas.BP128
import Varint.Lemmas.Dict
import Varint.Lemmas.Elias
import Varint.Lemmas.PFOR
import Varint.Lemmas.RLEH
import Varint.Lemmas.Group
import Varint.Lemmas.Delta
import Varint.Lemmas.RLE
import Varint.Lemmas.FOR
/-
  C02 — integer-array codecs are lossless, including random access.
  Each statement names the arrays it covers in its premises (64-bit values, for several codecs a non-empty
  input or a length bound between 2^58 and 2^64); where a statement has `++ rest`, it says the decoder needs only
  the bytes the encoder reported (what follows them is irrelevant). The Elias statements take the declared bit
  count instead of a `rest`.
-/
namespace Varint.Props.C02
open Varint

def U64s (xs : List Nat) : Prop := ∀ x ∈ xs, x < 2 ^ 64

/-- unsigned delta: decode(count) ∘ encode = id, consuming exactly the bytes written -/
theorem deltaU_roundtrip (xs : List Nat) (hx : U64s xs) (rest : List Nat) :
    Delta.decU xs.length (Delta.encU xs ++ rest) = some (xs, (Delta.encU xs).length) :=
  Delta.decU_encU xs hx rest

/-- signed delta on two's-complement patterns (the C computes the same wrapped differences whenever
    they are representable, which is the documented domain) -/
theorem delta_roundtrip (xs : List Nat) (hx : U64s xs) (rest : List Nat) :
    Delta.decS xs.length (Delta.encS xs ++ rest) = some (xs, (Delta.encS xs).length) :=
  Delta.decS_encS xs hx rest

/-- zig-zag on 64-bit patterns: `unzz` undoes `zz`, and `zz` stays within 64 bits -/
theorem zigzag_roundtrip (x : Nat) (hx : x < 2 ^ 64) : Delta.unzz (Delta.zz x) = x ∧ Delta.zz x < 2 ^ 64 :=
  ⟨Delta.unzz_zz x hx, Delta.zz_lt x hx⟩

/-- frame-of-reference, plain/batch decoder (the batch entry points run the same scalar code in the
    pinned build), any capacity ≥ count -/
theorem for_roundtrip (xs : List Nat) (g : FOR.Good xs) (cap : Nat) (hcap : xs.length ≤ cap) (rest : List Nat) :
    FOR.dec (FOR.enc xs ++ rest) cap = some (some xs) :=
  FOR.dec_enc xs g cap hcap rest

/-- random access returns the element the full decoder returns -/
theorem for_getAt (xs : List Nat) (g : FOR.Good xs) (i : Nat) (hi : i < xs.length) (rest : List Nat) :
    FOR.getAt (FOR.enc xs ++ rest) i = some (xs.getD i 0) :=
  FOR.getAt_enc xs g i hi rest

/-- the block reader (`varintFORDecodeBlock`) returns exactly the requested slice: elements start … start+blockSize-1,
    cut at the end of the array, nothing when start is past the end -/
theorem for_block_roundtrip (xs : List Nat) (g : FOR.Good xs) (start blockSize : Nat) (rest : List Nat) :
    FOR.decBlock (FOR.enc xs ++ rest) start blockSize = some ((xs.drop start).take blockSize) :=
  FOR.decBlock_enc xs g start blockSize rest

/-- run-length (headerless): decoding with the original count -/
theorem rle_roundtrip (xs : List Nat) (hx : U64s xs) (hn : xs.length < 2 ^ 64) (rest : List Nat) :
    RLE.dec (RLE.enc xs ++ rest) xs.length = some xs :=
  RLE.dec_enc xs hx hn rest

/-- **on the machine translation of `varintRLEEncode`**: the bytes the C stores (in order, each once) are an encoding
    that the decoder given the original count turns back into the array, whatever follows them in memory -/
theorem c_rle_encode_roundtrip (xs : List Nat) (hx : U64s xs) (hn : xs.length < 2 ^ 60) (given : Bool) (fuel : Nat)
    (hf : xs.length + 2 ≤ fuel) (rest : List Nat) :
    ∃ n m1 m2 m3 m4 stores,
      Varint.Gen.C.rleEncode fuel (Varint.Bridge.Tagged.bufOf xs) xs.length given = some (n, m1, m2, m3, m4, stores) ∧
      stores.map Prod.fst = List.range' 0 n ∧
      RLE.dec (stores.map Prod.snd ++ rest) xs.length = some xs := by
  refine ⟨_, _, _, _, _, _, Varint.Bridge.RLE.rleEncode_eq xs hx hn given fuel hf, ?_, ?_⟩
  · rw [Varint.Bridge.storesFrom_fst]
  · rw [Varint.Bridge.storesFrom_snd]; exact RLE.dec_enc xs hx (by omega) rest

/-- **both directions on the machine translation**: the bytes `varintRLEEncode` stores, handed to `varintRLEDecode`
    with the original count (whatever bytes follow them), make the decoder store exactly the original array at
    values[0 … count-1] and return count. Encoder loop, decoder loops and the tagged reader/writer are all the
    translated C; no hand-written model of the codec's control flow is involved in the statement. -/
theorem c_rle_codec_roundtrip (xs : List Nat) (hx : U64s xs) (hn : xs.length < 2 ^ 60) (given : Bool)
    (rest : List Nat) (hr : ∀ b ∈ rest, b < 256) (fuel : Nat) (hf : 2 * xs.length + 2 ≤ fuel) :
    ∃ n m1 m2 m3 m4 stores,
      Varint.Gen.C.rleEncode fuel (Varint.Bridge.Tagged.bufOf xs) xs.length given = some (n, m1, m2, m3, m4, stores) ∧
      Varint.Gen.C.rleDecode fuel (Varint.Bridge.Tagged.bufOf (stores.map Prod.snd ++ rest)) xs.length =
        some (xs.length, Varint.Bridge.storesFrom 0 xs) := by
  refine ⟨_, _, _, _, _, _, Varint.Bridge.RLE.rleEncode_eq xs hx hn given fuel (by omega), ?_⟩
  rw [Varint.Bridge.storesFrom_snd]
  have hb : ∀ b ∈ RLE.enc xs ++ rest, b < 256 :=
    List.forall_mem_append.2 ⟨Varint.Bridge.RLEDec.enc_lt xs hx (by omega), hr⟩
  exact Varint.Bridge.RLEDec.rleDecode_eq _ hb xs.length (by omega) xs (RLE.dec_enc xs hx (by omega) rest) fuel hf

/-- **unsigned delta, both directions on the machine translation of src/varintDelta.c** (width loops, external
    put/get through the byte views, zig-zag, pointer walk — all regenerated from the current source): for EVERY array of
    fewer than 2^58 64-bit values (every difference wraps, no value is excluded) `varintDeltaEncodeUnsigned` leaves the model's bytes at
    output[0 … n-1] — each index below n stored once, none beyond — and returns n; `varintDeltaDecodeUnsigned` on that
    memory, followed by any fewer than 2^62 bytes, stores the original values at output[0], output[1], … and returns n -/
theorem c_delta_unsigned_roundtrip (xs : List Nat) (hx : U64s xs) (hn : xs.length < 2 ^ 58) (rest : List Nat)
    (hr : ∀ b ∈ rest, b < 256) (hrl : rest.length < 2 ^ 62) (fuel : Nat) (hf : xs.length + 9 ≤ fuel) :
    ∃ n stores,
      Varint.Gen.C.deltaEncodeUnsigned fuel (Varint.Bridge.Tagged.bufOf xs) xs.length = some (n, stores) ∧
      Varint.Bridge.External.Writes stores (Delta.encU xs) ∧ n = (Delta.encU xs).length ∧
      Varint.Gen.C.deltaDecodeUnsigned fuel (Varint.Bridge.Tagged.bufOf (Delta.encU xs ++ rest)) xs.length =
        some (n, Varint.Bridge.storesFrom 0 xs) := by
  obtain ⟨stores, h1, h2⟩ := Varint.Bridge.Delta.deltaEncodeUnsigned_eq xs hx (by omega) fuel hf
  refine ⟨_, stores, h1, h2, rfl, ?_⟩
  have hb : ∀ b ∈ Delta.encU xs ++ rest, b < 256 := List.forall_mem_append.2 ⟨Varint.Bridge.Delta.encU_lt xs hx, hr⟩
  have hle := Delta.encU_length_le xs hx
  have hm : Delta.maxSize xs.length ≤ 9 * xs.length + 9 := by unfold Delta.maxSize; split <;> omega
  exact Varint.Bridge.Delta.deltaDecodeUnsigned_eq _ hb (by rw [List.length_append]; omega) xs.length (by omega) xs _
    (Delta.decU_encU xs hx rest) fuel (by omega)

/-- **signed delta, both directions on the machine translation**: for every array of int64 values (given as their
    64-bit patterns) whose neighbouring differences are representable in int64 — the signed codec's documented domain;
    outside it the C's `values[i] - prev` is undefined — `varintDeltaEncode` leaves the model's bytes (each index below
    n once, none beyond) and `varintDeltaDecode` of them stores the original patterns and returns n -/
theorem c_delta_signed_roundtrip (xs : List Nat) (hx : U64s xs) (hn : xs.length < 2 ^ 58)
    (hok : ∀ b t, xs = b :: t → Varint.Bridge.Delta.DiffsOK b t) (rest : List Nat)
    (hr : ∀ b ∈ rest, b < 256) (hrl : rest.length < 2 ^ 62) (fuel : Nat) (hf : xs.length + 9 ≤ fuel) :
    ∃ n stores,
      Varint.Gen.C.deltaEncode fuel (Varint.Bridge.Tagged.bufOf xs) xs.length = some (n, stores) ∧
      Varint.Bridge.External.Writes stores (Delta.encS xs) ∧ n = (Delta.encS xs).length ∧
      Varint.Gen.C.deltaDecode fuel (Varint.Bridge.Tagged.bufOf (Delta.encS xs ++ rest)) xs.length =
        some (n, Varint.Bridge.storesFrom 0 xs) := by
  obtain ⟨stores, h1, h2⟩ := Varint.Bridge.Delta.deltaEncode_eq xs hx (by omega) hok fuel hf
  refine ⟨_, stores, h1, h2, rfl, ?_⟩
  have hb : ∀ b ∈ Delta.encS xs ++ rest, b < 256 := List.forall_mem_append.2 ⟨Varint.Bridge.Delta.encS_lt xs hx, hr⟩
  have hle := Delta.encS_length_le xs hx
  have hm : Delta.maxSize xs.length ≤ 9 * xs.length + 9 := by unfold Delta.maxSize; split <;> omega
  exact Varint.Bridge.Delta.deltaDecode_eq _ hb (by rw [List.length_append]; omega) xs.length (by omega) xs _
    (Delta.decS_encS xs hx rest) fuel (by omega)

/-- non-vacuity of the representability premise: an array with negative and positive steps -/
example : Varint.Bridge.Delta.DiffsOK 5 [2 ^ 64 - 3, 7, 2 ^ 62] := by
  simp only [Varint.Bridge.Delta.DiffsOK, toI64]; decide

/-- group: decode(encode) returns the fields and the number of bytes consumed = bytes written;
    whatever follows the encoding is irrelevant -/
theorem group_roundtrip (xs : List Nat) (h : Group.Ok xs) (cap : Nat) (hcap : xs.length ≤ cap) (rest : List Nat) :
    Group.dec (Group.enc xs ++ rest) cap = some (some (xs, (Group.enc xs).length)) :=
  Group.dec_enc xs h cap hcap rest

/-- group random access returns the field the full decoder returns, and stays inside the encoding -/
theorem group_getField (xs : List Nat) (h : Group.Ok xs) (i : Nat) (hi : i < xs.length) (rest : List Nat) :
    ∃ n, Group.getField (Group.enc xs ++ rest) i = some (some (xs.getD i 0, n)) ∧ n ≤ (Group.enc xs).length :=
  Group.getField_enc xs h i hi rest

theorem rleh_roundtrip (xs : List Nat) (hx : U64s xs) (hn : xs.length < 2 ^ 64) (cap : Nat)
    (hcap : xs.length ≤ cap) (rest : List Nat) :
    RLE.decH (RLE.encH xs ++ rest) cap = some (some xs) :=
  RLE.decH_encH xs hx hn cap hcap rest

theorem rle_getAt (xs : List Nat) (hx : U64s xs) (hn : xs.length < 2 ^ 64) (i : Nat) (hi : i < xs.length)
    (rest : List Nat) : RLE.getAt (RLE.enc xs ++ rest) i = some (xs.getD i 0) :=
  RLE.getAt_enc xs hx hn i hi rest

/-! ## patched frame-of-reference, at EVERY threshold percentage -/

theorem pfor_roundtrip (xs : List Nat) (g : PFOR.Good xs) (t : Nat) (rest : List Nat) :
    PFOR.dec (PFOR.enc xs t ++ rest) = some xs :=
  PFOR.dec_enc xs g t rest

/-! ## Elias gamma / delta (values ≥ 1): for EVERY declared bit count between the exact number of code
    bits and the whole last byte (the zero padding decodes as "no more values") and for every capacity
    (a smaller capacity yields the correct prefix) -/

theorem elias_gamma_roundtrip (xs : List Nat) (h : Elias.Pos64 xs) (srcBits cap : Nat)
    (hlo : (xs.flatMap Elias.gamma).length ≤ srcBits) (hhi : srcBits ≤ 8 * (Elias.encGamma xs).length) :
    Elias.decGamma (Elias.encGamma xs) srcBits cap = some (xs.take cap) :=
  Elias.decGamma_enc_gen xs h srcBits cap hlo hhi

theorem elias_delta_roundtrip (xs : List Nat) (h : Elias.Pos64 xs) (srcBits cap : Nat)
    (hlo : (xs.flatMap Elias.delta).length ≤ srcBits) (hhi : srcBits ≤ 8 * (Elias.encDelta xs).length) :
    Elias.decDelta (Elias.encDelta xs) srcBits cap = some (xs.take cap) :=
  Elias.decDelta_enc_gen xs h srcBits cap hlo hhi

/-- the byte-granular call with room for everything returns the whole array -/
theorem elias_roundtrip_bytes (xs : List Nat) (h : Elias.Pos64 xs) (cap : Nat) (hcap : xs.length ≤ cap) :
    Elias.decGamma (Elias.encGamma xs) (8 * (Elias.encGamma xs).length) cap = some xs ∧
    Elias.decDelta (Elias.encDelta xs) (8 * (Elias.encDelta xs).length) cap = some xs :=
  ⟨Elias.decGamma_enc_bytes xs h cap hcap, Elias.decDelta_enc_bytes xs h cap hcap⟩

/-! ## dictionary (both decoders): for every array the encoder ACCEPTS (`enc xs ≠ []`, which is exactly
    "non-empty and at most 2^20 distinct values") -/

theorem dict_accepts_iff (xs : List Nat) : Dict.enc xs ≠ [] ↔ xs ≠ [] ∧ (Dict.build xs).length ≤ Dict.maxDict :=
  Dict.enc_ne_nil_iff xs

/-- `varintDictDecode` (allocating) and `varintDictDecodeInto` with room for everything -/
theorem dict_roundtrip (xs : List Nat) (hx : U64s xs) (hn : xs.length < 2 ^ 64) (h : Dict.enc xs ≠ []) (rest : List Nat) :
    Dict.dec (Dict.enc xs ++ rest) none = some xs ∧
    ∀ cap, xs.length ≤ cap → Dict.dec (Dict.enc xs ++ rest) (some cap) = some xs :=
  ⟨Dict.dec_enc xs hx hn h rest, fun cap hc => Dict.dec_enc_cap xs hx hn h rest cap hc⟩

/-- the dictionary is the sorted duplicate-free set of the input values and every value is found in it -/
theorem dict_build_spec (xs : List Nat) :
    List.Pairwise (· < ·) (Dict.build xs) ∧ (∀ x, x ∈ Dict.build xs ↔ x ∈ xs) ∧
    (Dict.build xs).length ≤ xs.length ∧
    ∀ x ∈ xs, ∃ i, Dict.find (Dict.build xs) x = some i ∧ i < (Dict.build xs).length ∧ (Dict.build xs)[i]? = some x :=
  ⟨Dict.build_pairwise xs, Dict.mem_build xs, Dict.build_length_le xs,
   fun x hx => Dict.find_mem _ (Dict.build_pairwise xs) x ((Dict.mem_build xs x).mpr hx)⟩

/-! ## 128-block bit packing (scalar paths). The 32-bit and the delta forms carry no element count, so the
    decoder is given the original count (the 32-bit form also any larger capacity when the stream ends with a partial
    block, the 64-bit delta form also any smaller capacity ⇒ the correct prefix);
    the 64-bit form carries the count and accepts any capacity (smaller ⇒ the correct prefix). -/

theorem bp128_32_roundtrip (xs : List Nat) (h : ∀ x ∈ xs, x < 2 ^ 32) (rest : List Nat) :
    BP128.dec32 (BP128.enc32 xs ++ rest) xs.length = some xs ∧
    ∀ cap, xs.length ≤ cap → xs.length % 128 ≠ 0 → BP128.dec32 (BP128.enc32 xs ++ rest) cap = some xs :=
  ⟨BP128.dec32_enc32 xs h rest, fun cap hc hp => BP128.dec32_enc32_cap xs h cap hc hp rest⟩

theorem bp128_64_roundtrip (xs : List Nat) (hne : xs ≠ []) (h : U64s xs) (hn : xs.length < 2 ^ 64) (cap : Nat)
    (rest : List Nat) : BP128.dec64 (BP128.enc64 xs ++ rest) cap = some (xs.take cap) :=
  BP128.dec64_enc64_take xs hne h hn cap rest

theorem bp128_delta32_roundtrip (xs : List Nat) (hne : xs ≠ []) (h : ∀ x ∈ xs, x < 2 ^ 32) (rest : List Nat) :
    BP128.decD32 (BP128.encD 32 xs ++ rest) xs.length = some xs :=
  BP128.decD32_encD xs hne h rest

theorem bp128_delta64_roundtrip (xs : List Nat) (hne : xs ≠ []) (h : U64s xs) (rest : List Nat) :
    BP128.decD64 (BP128.encD 64 xs ++ rest) xs.length = some xs ∧
    ∀ cap, cap ≤ xs.length → BP128.decD64 (BP128.encD 64 xs ++ rest) cap = some (xs.take cap) :=
  ⟨BP128.decD64_encD xs hne h rest, fun cap hc => BP128.decD64_encD_prefix xs hne h cap hc rest⟩

/-- the block bit width: every value fits in it, it is 0 exactly for an all-zero block, and it is at most 64 for
    64-bit values -/
theorem bp128_bitwidth (xs : List Nat) :
    (∀ x ∈ xs, x < 2 ^ BP128.bitWidth xs) ∧ (BP128.bitWidth xs = 0 ↔ ∀ x ∈ xs, x = 0) ∧
    ((∀ x ∈ xs, x < 2 ^ 64) → BP128.bitWidth xs ≤ 64) :=
  ⟨BP128.lt_pow_bitWidth xs, BP128.bitWidth_eq_zero xs, BP128.bitWidth_le_64 xs⟩

/-- zig-zag of the C ITSELF (shift/xor form, regenerated from varintDelta.h on every run): equal to the
    model's map on every 64-bit pattern, and the C's decoder undoes it -/
theorem c_zigzag_roundtrip (x : Nat) (hx : x < 2 ^ 64) :
    Varint.Gen.C.deltaZigZag (toI64 x) = Delta.zz x ∧
    Varint.Gen.C.deltaZigZagDecode (Varint.Gen.C.deltaZigZag (toI64 x)) = toI64 x := by
  have h1 := Varint.Bridge.Sizes.deltaZigZag_eq x hx
  refine ⟨h1, ?_⟩
  rw [h1, Varint.Bridge.Sizes.deltaZigZagDecode_eq _ (Delta.zz_lt x hx), Delta.unzz_zz x hx]

/-- non-vacuity -/
example : FOR.Good [100, 200, 300] := ⟨by decide, by decide, by decide⟩
example : FOR.dec (FOR.enc [100, 200, 300, 100]) 4 = some (some [100, 200, 300, 100]) := by decide
example : (Delta.decU 3 (Delta.encU [5, 2 ^ 64 - 1, 0])).map (·.1) = some [5, 2 ^ 64 - 1, 0] := by decide
example : RLE.dec (RLE.enc [5, 5, 7, 7, 7, 9]) 6 = some [5, 5, 7, 7, 7, 9] := by decide

/-- **frame-of-reference decode on the translated C** (`varintFORDecode`, `varintFORGetAt`, machine-translated from
    src/varintFOR.c): from the bytes the model's encoder produces for any non-empty array of 64-bit values — followed
    by anything — the decoder returns the count and stores exactly the original values at values[0 … n-1] for every
    capacity ≥ n, and random access returns element i for every i < n. Every fuel above the count; n < 2^61 (the C
    computes `index * offsetWidth` in 64 bits). -/
theorem c_for_decode_roundtrip (xs : List Nat) (g : FOR.Good xs) (cap : Nat) (hcap : xs.length ≤ cap) (rest : List Nat)
    (hrest : ∀ b ∈ rest, b < 256) (fuel : Nat) (hf : xs.length < fuel) (h61 : xs.length < 2 ^ 61) :
    Varint.Gen.C.forDecode fuel (Varint.Bridge.Tagged.bufOf (FOR.enc xs ++ rest)) cap =
      some (xs.length, Varint.Bridge.storesFrom 0 xs) ∧
    (∀ i, i < xs.length →
      Varint.Gen.C.forGetAt (Varint.Bridge.Tagged.bufOf (FOR.enc xs ++ rest)) i = xs.getD i 0) := by
  have hb : ∀ b ∈ FOR.enc xs ++ rest, b < 256 := List.forall_mem_append.2 ⟨Varint.Bridge.FORDec.enc_lt xs g, hrest⟩
  have hh := FOR.readHdr_enc xs g rest
  obtain ⟨_, _, hw1, hw8, _⟩ := FOR.analyze_facts xs g
  constructor
  · exact ((Varint.Bridge.FORDec.forDecode_eq _ hb cap fuel _ hh hf).2 xs (for_roundtrip xs g cap hcap rest)).1
  · intro i hi
    refine Varint.Bridge.FORDec.forGetAt_eq _ hb i _ _ hh ?_ (for_getAt xs g i hi rest)
    have hlen := g.len
    have : i * (FOR.analyze xs).offsetWidth ≤ i * 8 := Nat.mul_le_mul_left i hw8
    simp only []
    omega

/-- **group decode on the translated C** (`varintGroupDecode`: the loop that fills the local `widths[]` array and the
    loop that reads it back, machine-translated from src/varintGroup.c): from the bytes the model's encoder produces for
    any 1..64 fields of 64-bit values — followed by anything that keeps the buffer below 2^64 bytes — it stores the field count, exactly the original values at
    values[0 … n-1] and returns the encoded length, for every capacity ≥ n. Every fuel above 64. -/
theorem c_group_decode_roundtrip (xs : List Nat) (h : Group.Ok xs) (cap : Nat) (hcap : xs.length ≤ cap) (rest : List Nat)
    (hrest : ∀ b ∈ rest, b < 256) (h64 : (Group.enc xs ++ rest).length < 2 ^ 64) (fuel : Nat) (hf : 64 < fuel) :
    Varint.Gen.C.groupDecode fuel (Varint.Bridge.Tagged.bufOf (Group.enc xs ++ rest)) cap =
      some ((Group.enc xs).length, some xs.length, Varint.Bridge.storesFrom 0 xs) := by
  have hb : ∀ b ∈ Group.enc xs ++ rest, b < 256 := List.forall_mem_append.2 ⟨Group.enc_lt xs h, hrest⟩
  exact ((Varint.Bridge.Group.groupDecode_eq _ hb h64 cap fuel hf).2 xs _ (group_roundtrip xs h cap hcap rest)).1

/-- **group random access on the translated C** (`varintGroupGetField`): on the encoding of 1..64 fields (in a buffer below 2^64 bytes) it stores
    field `i` for every i < n and returns an offset inside the encoding -/
theorem c_group_getfield (xs : List Nat) (h : Group.Ok xs) (i : Nat) (hi : i < xs.length) (rest : List Nat)
    (hrest : ∀ b ∈ rest, b < 256) (h64 : (Group.enc xs ++ rest).length < 2 ^ 64) (fuel : Nat) (hf : 64 < fuel) :
    ∃ n, Varint.Gen.C.groupGetField fuel (Varint.Bridge.Tagged.bufOf (Group.enc xs ++ rest)) i =
      some (n, some (xs.getD i 0)) ∧ n ≤ (Group.enc xs).length := by
  have hb : ∀ b ∈ Group.enc xs ++ rest, b < 256 := List.forall_mem_append.2 ⟨Group.enc_lt xs h, hrest⟩
  obtain ⟨n, hg, hn⟩ := group_getField xs h i hi rest
  exact ⟨n, (Varint.Bridge.Group.groupGetField_eq _ hb h64 i (by have := h.2.1; omega) fuel hf).2 _ _ hg, hn⟩

/-- **the BP128 block width on the translated C** (`varintBP128MaxBitWidth64` = maximum scan + `varintBP128BitsNeeded64`'s
    shift loop): for every block of 64-bit values it returns the model's `bitWidth`, a width every value of
    the block fits in — the premise of the model's lossless packing. Every fuel ≥ n + 66. -/
theorem c_bp128_block_width (xs : List Nat) (hx : ∀ x ∈ xs, x < 2 ^ 64) (hn : xs.length < 2 ^ 63) (fuel : Nat)
    (hf : xs.length + 66 ≤ fuel) :
    Varint.Gen.C.bpMaxBitWidth64 fuel (Varint.Bridge.Tagged.bufOf xs) xs.length = some (BP128.bitWidth xs) ∧
    (∀ x ∈ xs, x < 2 ^ BP128.bitWidth xs) ∧ BP128.bitWidth xs ≤ 64 ∧
    ∀ v, v < 2 ^ 64 → Varint.Gen.C.bpBitsNeeded64 fuel v = some (Bits.bitsNeeded v) :=
  ⟨Varint.Bridge.BP.bpMaxBitWidth64_eq xs hx hn fuel hf, BP128.lt_pow_bitWidth xs, BP128.bitWidth_le_64 xs hx,
   fun v hv => Varint.Bridge.BP.bpBitsNeeded64_eq v fuel hv (by omega)⟩

/-- **the FOR block reader and the batch decoder on the translated C** (`varintFORDecodeBlock`, `varintFORBatchDecode`): on
    the encoding of a good array the block reader stores exactly the requested slice (elements start … start+blockSize-1,
    cut at the end; nothing when start is past the end) and the batch decoder does what `varintFORDecode` does -/
theorem c_for_block_roundtrip (xs : List Nat) (g : FOR.Good xs) (start bsz : Nat) (rest : List Nat)
    (hrest : ∀ b ∈ rest, b < 256) (h61 : xs.length < 2 ^ 61) (hsum : start + bsz < 2 ^ 64) (hst : start < 2 ^ 61)
    (fuel : Nat) (hf : bsz < fuel) (hf2 : xs.length < fuel) :
    Varint.Gen.C.forDecodeBlock fuel (Varint.Bridge.Tagged.bufOf (FOR.enc xs ++ rest)) start bsz =
      some (((xs.drop start).take bsz).length, Varint.Bridge.storesFrom 0 ((xs.drop start).take bsz)) ∧
    (∀ cap, xs.length ≤ cap →
      Varint.Gen.C.forBatchDecode fuel (Varint.Bridge.Tagged.bufOf (FOR.enc xs ++ rest)) cap =
        some (xs.length, Varint.Bridge.storesFrom 0 xs)) := by
  have hb : ∀ b ∈ FOR.enc xs ++ rest, b < 256 := List.forall_mem_append.2 ⟨Varint.Bridge.FORDec.enc_lt xs g, hrest⟩
  have hh := FOR.readHdr_enc xs g rest
  obtain ⟨_, _, hw1, hw8, _⟩ := FOR.analyze_facts xs g
  constructor
  · refine (Varint.Bridge.FORDec.forDecodeBlock_eq _ hb start bsz fuel _ hh hsum ?_ hf _
      (for_block_roundtrip xs g start bsz rest)).1
    have : start * (FOR.analyze xs).offsetWidth ≤ start * 8 := Nat.mul_le_mul_left start hw8
    simp only []
    omega
  · intro cap hcap
    have hd := (c_for_decode_roundtrip xs g cap hcap rest hrest fuel hf2 h61).1
    exact Varint.Bridge.FORDec.forBatchDecode_eq _ hb cap fuel _ hh _ hd (by intro hgt; simp only [] at hgt; omega)

end Varint.Props.C02
