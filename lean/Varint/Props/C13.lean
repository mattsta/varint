import Varint.Bridge.RLEDec
import Varint.Bridge.FORDec
import Varint.Bridge.Group
import Varint.Lemmas.Adaptive
import Varint.Lemmas.BP128
import Varint.Lemmas.Dict
import Varint.Lemmas.RLEH
import Varint.Lemmas.Group
import Varint.Lemmas.FOR
import Varint.Lemmas.RLE
import Varint.Props.C14
/-
  C13 — decoders never write beyond the caller's output capacity.
  A model decoder returns the list of values it stores (in order, from index 0), so "modifies at most
  `cap` elements" is `length ≤ cap` — for EVERY byte string, not only for valid encodings.
-/
namespace Varint.Props.C13
open Varint

/-- frame-of-reference, any bytes: either the documented failure or at most `cap` values -/
theorem for_trace_lt_cap (bs : List Nat) (cap : Nat) (vs : List Nat)
    (h : FOR.dec bs cap = some (some vs)) : vs.length ≤ cap := by
  obtain ⟨hd, _, h1, h2⟩ := FOR.dec_length h
  omega

theorem for_prefix_or_fail (xs : List Nat) (g : FOR.Good xs) (cap : Nat) (rest : List Nat) :
    FOR.dec (FOR.enc xs ++ rest) cap = (if cap < xs.length then some none else some (some xs)) := by
  split
  · exact FOR.dec_enc_small xs g cap ‹_› rest
  · exact FOR.dec_enc xs g cap (by omega) rest

theorem rle_decAux_length (fuel room : Nat) (bs vs : List Nat) (h : RLE.decAux fuel room bs = some vs) :
    vs.length ≤ room := by
  induction fuel generalizing room bs vs with
  | zero => cases h; exact Nat.zero_le _
  | succ f ih =>
    rw [RLE.decAux] at h
    split at h
    · cases h; exact Nat.zero_le _
    split at h
    · cases h
    split at h
    · cases h; exact Nat.zero_le _
    split at h
    · cases h; rw [List.length_replicate]; exact Nat.le_refl _
    · -- the run is shorter than the room: the rest goes into what is left
      obtain ⟨vs', hr, rfl⟩ := Option.map_eq_some_iff.mp h
      have := ih _ _ _ hr
      rw [List.length_append, List.length_replicate]
      omega

/-- run-length (headerless), any bytes: at most `cap` values are stored -/
theorem rle_trace_lt_cap (bs : List Nat) (cap : Nat) (vs : List Nat) (h : RLE.dec bs cap = some vs) :
    vs.length ≤ cap := rle_decAux_length _ _ _ _ h


/-- **on the machine translation of `varintRLEDecode`** (outer loop over runs + inner fill loop, regenerated from
    src/varintRLE.c on every run): for any byte string the model decodes — run lengths above the capacity, equal to the room
    left, up to 2^64-1 (where a sum `decoded + runLength` would wrap in size_t) — and every capacity below
    2^63 the C stores only at indices 0 … n-1 with n ≤ maxCount, each once and in order, and returns n. -/
theorem c_rle_decode_within_capacity (bs : List Nat) (hb : ∀ b ∈ bs, b < 256) (cap : Nat) (hcap : cap < 2 ^ 63)
    (vs : List Nat) (h : RLE.dec bs cap = some vs) (fuel : Nat) (hf : 2 * cap + 2 ≤ fuel) :
    ∃ n stores, Varint.Gen.C.rleDecode fuel (Varint.Bridge.Tagged.bufOf bs) cap = some (n, stores) ∧ n ≤ cap ∧
      stores.map Prod.fst = List.range' 0 n ∧ stores.map Prod.snd = vs := by
  refine ⟨vs.length, Varint.Bridge.storesFrom 0 vs, Varint.Bridge.RLEDec.rleDecode_eq bs hb cap hcap vs h fuel hf,
    rle_trace_lt_cap bs cap vs h, Varint.Bridge.storesFrom_fst 0 vs, Varint.Bridge.storesFrom_snd 0 vs⟩

/-- on the encoding of an array, a capacity not above its length yields the correct prefix: exactly `cap` values -/
theorem c_rle_decode_prefix (xs : List Nat) (hx : ∀ x ∈ xs, x < 2 ^ 64) (cap : Nat) (hcap : cap ≤ xs.length)
    (hn : xs.length < 2 ^ 63) (rest : List Nat) (hr : ∀ b ∈ rest, b < 256) (fuel : Nat) (hf : 2 * cap + 2 ≤ fuel) :
    Varint.Gen.C.rleDecode fuel (Varint.Bridge.Tagged.bufOf (RLE.enc xs ++ rest)) cap =
      some (cap, Varint.Bridge.storesFrom 0 (xs.take cap)) := by
  have h := RLE.dec_enc_prefix xs hx (by omega) cap hcap rest
  have hb : ∀ b ∈ RLE.enc xs ++ rest, b < 256 :=
    List.forall_mem_append.2 ⟨Varint.Bridge.RLEDec.enc_lt xs hx (by omega), hr⟩
  rw [Varint.Bridge.RLEDec.rleDecode_eq _ hb cap (by omega) _ h fuel hf]
  simp [List.length_take, Nat.min_eq_left hcap]

/-- group, any bytes: at most `maxFields` (and never more than 64) values are stored -/
theorem group_trace_lt_cap (bs : List Nat) (cap : Nat) (vs : List Nat) (n : Nat)
    (h : Group.dec bs cap = some (some (vs, n))) : vs.length ≤ cap ∧ vs.length ≤ 64 :=
  Group.dec_length_le_cap bs cap vs n h

/-- group: a capacity below the field count is the documented failure -/
theorem group_small_cap_fails (xs : List Nat) (h : Group.Ok xs) (cap : Nat) (hcap : cap < xs.length) (rest : List Nat) :
    Group.dec (Group.enc xs ++ rest) cap = some none :=
  Group.dec_enc_small xs h cap hcap rest

/-- run-length with header, any bytes: at most `cap` values -/
theorem rleh_trace_lt_cap (bs : List Nat) (cap : Nat) (vs : List Nat)
    (h : RLE.decH bs cap = some (some vs)) : vs.length ≤ cap :=
  RLE.decH_length_le_cap bs cap vs h

/-- run-length with header: a count above the capacity is the documented failure;
    headerless: a smaller capacity yields the correct prefix -/
theorem rle_prefix_or_fail (xs : List Nat) (hx : ∀ x ∈ xs, x < 2 ^ 64) (hn : xs.length < 2 ^ 64) (cap : Nat) (rest : List Nat) :
    (cap < xs.length → RLE.decH (RLE.encH xs ++ rest) cap = some none) ∧
    (cap ≤ xs.length → RLE.dec (RLE.enc xs ++ rest) cap = some (xs.take cap)) :=
  ⟨fun hc => RLE.decH_encH_small xs hn cap hc rest, fun hc => RLE.dec_enc_prefix xs hx hn cap hc rest⟩


/-- dictionary DecodeInto on the codec-level model, any bytes: at most `maxValues` -/
theorem dict_dec_trace_lt_cap (bs : List Nat) (c : Nat) (vs : List Nat) (h : Dict.dec bs (some c) = some vs) :
    vs.length ≤ c := Dict.dec_length_le_cap bs c vs h

/-- dictionary: a capacity below the stored count is the documented failure -/
theorem dict_small_cap_fails (xs : List Nat) (hx : ∀ x ∈ xs, x < 2 ^ 64) (hn : xs.length < 2 ^ 64)
    (h : Dict.enc xs ≠ []) (rest : List Nat) (cap : Nat) (hc : cap < xs.length) :
    Dict.dec (Dict.enc xs ++ rest) (some cap) = none :=
  Dict.dec_enc_small_cap xs hx hn h rest cap hc


/-- BP128, all four decoders, any bytes: at most `maxCount` values are stored -/
theorem bp128_trace_lt_cap (bs : List Nat) (cap : Nat) (vs : List Nat) :
    (BP128.dec32 bs cap = some vs → vs.length ≤ cap) ∧ (BP128.dec64 bs cap = some vs → vs.length ≤ cap) ∧
    (BP128.decD32 bs cap = some vs → vs.length ≤ cap) ∧ (BP128.decD64 bs cap = some vs → vs.length ≤ cap) :=
  ⟨BP128.dec32_cap bs cap vs, BP128.dec64_cap bs cap vs, BP128.decD32_cap bs cap vs, BP128.decD64_cap bs cap vs⟩


/-- adaptive decoder, all six arms, ANY bytes: at most `maxCount` values are stored -/
theorem adaptive_trace_lt_cap (bs : List Nat) (cap : Nat) (vs : List Nat)
    (h : Adaptive.decodeAll bs cap = some vs) : vs.length ≤ cap :=
  Adaptive.decodeAll_length_le_cap bs cap vs h

/-- dictionary (DecodeInto), any bytes: at most `maxValues` values are stored (shared with C14) -/
theorem dict_trace_lt_cap (bs : List Nat) (c : Nat) (vs : List Nat)
    (h : (Bounded.dictDec bs (some c)).1 = .ok vs) : vs.length ≤ c :=
  Varint.Props.C14.dict_out_le_cap bs c vs h

/-- Elias gamma / delta array decoders, any bytes and any declared bit count: at most `maxCount` values -/
theorem elias_trace_lt_cap (bytes : List Nat) (srcBits cap : Nat) (vs : List Nat) :
    (Elias.decGamma bytes srcBits cap = some vs → vs.length ≤ cap) ∧
    (Elias.decDelta bytes srcBits cap = some vs → vs.length ≤ cap) :=
  Varint.Props.C14.elias_out_le_cap bytes srcBits cap vs


/-- **`varintFORDecode` on the translated C never writes beyond the caller's capacity**: for ANY byte buffer whose
    header the model can read and any capacity: where the model refuses (the declared count exceeds the capacity) the C
    returns 0 without a single store, and where the model decodes values `vs` the C stores exactly them at
    values[0 … n-1] and returns n = their number — every store index is below maxCount -/
theorem c_for_decode_bounded (bs : List Nat) (hb : ∀ b ∈ bs, b < 256) (cap fuel : Nat) (h : FOR.Hdr)
    (hh : FOR.readHdr bs = some h) (hf : h.count < fuel) :
    (FOR.dec bs cap = some none → Varint.Gen.C.forDecode fuel (Varint.Bridge.Tagged.bufOf bs) cap = some (0, [])) ∧
    (∀ vs, FOR.dec bs cap = some (some vs) →
      ∃ st, Varint.Gen.C.forDecode fuel (Varint.Bridge.Tagged.bufOf bs) cap = some (vs.length, st) ∧
        st = Varint.Bridge.storesFrom 0 vs ∧ ∀ p ∈ st, p.1 < cap) := by
  obtain ⟨h1, h2⟩ := Varint.Bridge.FORDec.forDecode_eq bs hb cap fuel h hh hf
  refine ⟨h1, ?_⟩
  intro vs hd
  obtain ⟨e, _, hle⟩ := h2 vs hd
  refine ⟨_, e, rfl, ?_⟩
  intro p hp
  have := Varint.Bridge.storesFrom_fst_lt 0 vs p hp
  omega


/-- **`varintGroupDecode` on the translated C never writes beyond `maxFields`**: for ANY byte buffer the model reads
    inside of and any capacity, either the field count is 0, above 64 or above the capacity and the C returns 0 without a
    single store (not even `*fieldCount`), or it stores exactly values[0 … n-1] with n ≤ maxFields -/
theorem c_group_decode_bounded (bs : List Nat) (hb : ∀ b ∈ bs, b < 256) (h64 : bs.length < 2 ^ 64) (cap fuel : Nat)
    (hf : 64 < fuel) :
    (Group.dec bs cap = some none →
      Varint.Gen.C.groupDecode fuel (Varint.Bridge.Tagged.bufOf bs) cap = some (0, none, [])) ∧
    (∀ vs consumed, Group.dec bs cap = some (some (vs, consumed)) →
      ∃ st, Varint.Gen.C.groupDecode fuel (Varint.Bridge.Tagged.bufOf bs) cap = some (consumed, some vs.length, st) ∧
        st = Varint.Bridge.storesFrom 0 vs ∧ ∀ p ∈ st, p.1 < cap) := by
  obtain ⟨h1, h2⟩ := Varint.Bridge.Group.groupDecode_eq bs hb h64 cap fuel hf
  refine ⟨h1, ?_⟩
  intro vs consumed hd
  obtain ⟨e, hle⟩ := h2 vs consumed hd
  refine ⟨_, e, rfl, ?_⟩
  intro p hp
  have := Varint.Bridge.storesFrom_fst_lt 0 vs p hp
  omega


/-- **`varintFORDecodeBlock` on the translated C never writes beyond `blockSize` elements**: for ANY byte buffer whose
    header and requested slice the model can read, the stores are exactly values[0 … n-1] with n ≤ blockSize -/
theorem c_for_block_bounded (bs : List Nat) (hb : ∀ b ∈ bs, b < 256) (start bsz fuel : Nat) (h : FOR.Hdr)
    (hh : FOR.readHdr bs = some h) (hsum : start + bsz < 2 ^ 64) (hsw : start * h.width < 2 ^ 64) (hf : bsz < fuel)
    (vs : List Nat) (hd : FOR.decBlock bs start bsz = some vs) :
    ∃ st, Varint.Gen.C.forDecodeBlock fuel (Varint.Bridge.Tagged.bufOf bs) start bsz = some (vs.length, st) ∧
      st = Varint.Bridge.storesFrom 0 vs ∧ ∀ p ∈ st, p.1 < bsz := by
  obtain ⟨e, hle⟩ := Varint.Bridge.FORDec.forDecodeBlock_eq bs hb start bsz fuel h hh hsum hsw hf vs hd
  refine ⟨_, e, rfl, ?_⟩
  intro p hp
  have := Varint.Bridge.storesFrom_fst_lt 0 vs p hp
  omega

end Varint.Props.C13
