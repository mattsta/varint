import Varint.Bridge.FOR
import Varint.Bridge.FORDec
import Varint.Bridge.Group
import Varint.Bridge.RLE
import Varint.Lemmas.PFOR
import Varint.Lemmas.RLEH
import Varint.Lemmas.Group
import Varint.Lemmas.FOR
import Varint.Lemmas.RLE
/-
  C16 — reported metadata and header accessors tell the truth.
-/
namespace Varint.Props.C16
open Varint

/-- FOR analysis metadata = real minimum, maximum, range, count, byte width, encoded size -/
theorem for_meta_true (xs : List Nat) (g : FOR.Good xs) :
    let m := FOR.analyze xs
    (∀ x ∈ xs, m.minValue ≤ x ∧ x ≤ m.maxValue) ∧ m.minValue ∈ xs ∧ m.maxValue ∈ xs ∧
    m.range = m.maxValue - m.minValue ∧ m.count = xs.length ∧ m.offsetWidth = extLen m.range ∧
    m.encodedSize = (FOR.enc xs).length := by
  intro m
  exact ⟨fun x hx => ⟨FOR.minL_le xs x hx, FOR.le_maxL xs x hx⟩, FOR.minL_mem xs g.ne, FOR.maxL_mem xs g.ne, rfl, rfl, rfl,
    (FOR.enc_length xs).symm⟩

/-- **on the machine translation of `varintFORAnalyze`** (the min/max scan over the WHOLE array, regenerated from
    src/varintFOR.c on every run): every field the C writes into the metadata struct is the model's, hence
    (`for_meta_true`) the true minimum and maximum of the data — both are elements, every element lies between
    them —, their difference, the bytes that difference needs, the count and the encoded size -/
theorem c_for_analyze_true (xs : List Nat) (g : FOR.Good xs) (hn : xs.length < 2 ^ 56) (fuel : Nat)
    (hf : xs.length + 8 ≤ fuel) :
    let m := FOR.analyze xs
    Varint.Gen.C.forAnalyze fuel (Varint.Bridge.Tagged.bufOf xs) xs.length =
      some (some m.minValue, some m.maxValue, some m.range, some m.offsetWidth, some m.count, some m.encodedSize) ∧
    (∀ x ∈ xs, m.minValue ≤ x ∧ x ≤ m.maxValue) ∧ m.minValue ∈ xs ∧ m.maxValue ∈ xs ∧
    m.encodedSize = (FOR.enc xs).length := by
  intro m
  have h := for_meta_true xs g
  exact ⟨Varint.Bridge.FOR.forAnalyze_eq xs g.ne g.lt hn fuel hf, h.1, h.2.1, h.2.2.1, h.2.2.2.2.2.2⟩

/-- header accessors (GetMinValue / GetCount / GetOffsetWidth / ReadMetadata) read back what was encoded -/
theorem for_accessor_true (xs : List Nat) (g : FOR.Good xs) (rest : List Nat) :
    FOR.readHdr (FOR.enc xs ++ rest) = some ⟨(FOR.analyze xs).minValue, (FOR.analyze xs).offsetWidth, xs.length,
      Tagged.len (FOR.analyze xs).minValue, Tagged.len xs.length⟩ :=
  FOR.readHdr_enc xs g rest

/-- RLE: the maximal runs expand back to the data, their lengths sum to count and are ≥ 1, and the size
    predictor is the encoding's length -/
theorem rle_meta_true (xs : List Nat) :
    RLE.expand (RLE.runs xs) = xs ∧ RLE.total (RLE.runs xs) = xs.length ∧
    (∀ r ∈ RLE.runs xs, 1 ≤ r.1) ∧ RLE.size xs = (RLE.enc xs).length :=
  ⟨RLE.expand_runs xs, RLE.total_runs xs, RLE.runs_pos xs, (RLE.enc_length xs).symm⟩


/-- **on the machine translation of `varintRLEEncode` / `varintRLEAnalyze`**: the metadata both functions write is
    the truth about the data and the bytes: count = number of elements, runCount = number of maximal runs (the
    analysis reports it as uniqueValues too), encodedSize = bytes the encoder really stores = what it returns -/
theorem c_rle_meta_true (xs : List Nat) (hx : ∀ x ∈ xs, x < 2 ^ 64) (hn : xs.length < 2 ^ 59) (fuel : Nat)
    (hf : xs.length + 2 ≤ fuel) :
    ∃ n stores b,
      Varint.Gen.C.rleEncode fuel (Varint.Bridge.Tagged.bufOf xs) xs.length true =
        some (n, some xs.length, some (RLE.runs xs).length, some n, some 0, stores) ∧
      Varint.Gen.C.rleAnalyze fuel (Varint.Bridge.Tagged.bufOf xs) xs.length =
        some (b, some xs.length, some (RLE.runs xs).length, some n, some (RLE.runs xs).length) ∧
      stores.length = n := by
  refine ⟨(RLE.enc xs).length, Varint.Bridge.storesFrom 0 (RLE.enc xs),
    if xs ≠ [] ∧ RLE.size xs < 8 * xs.length then 1 else 0,
    Varint.Bridge.RLE.rleEncode_eq xs hx (by omega) true fuel hf, ?_, ?_⟩
  · rw [Varint.Bridge.RLE.rleAnalyze_eq xs hx hn fuel (by omega), RLE.enc_length]; rfl
  · rw [Varint.Bridge.storesFrom_length]

/-- group: the self-measured size and per-field widths read from an encoding are the real ones -/
theorem group_accessors_true (xs : List Nat) (h : Group.Ok xs) (rest : List Nat) :
    Group.getSize (Group.enc xs ++ rest) = some (Group.enc xs).length ∧
    ∀ i, i < xs.length → Group.getFieldWidth (Group.enc xs ++ rest) i = some (Group.normW (xs.getD i 0)) :=
  ⟨Group.getSize_enc xs h rest, fun i hi => Group.getFieldWidth_enc xs h i hi rest⟩

/-- RLE: the run count is the number of MAXIMAL runs (neighbouring runs differ), 0 only for the empty
    array, never more than the element count (that they are the only such decomposition is `RLE.runs_unique`) -/
theorem rle_runs_maximal (xs : List Nat) :
    RLE.runCount xs = (RLE.runs xs).length ∧ RLE.AdjNe (RLE.runs xs) ∧
    (RLE.runCount xs = 0 ↔ xs = []) ∧ RLE.runCount xs ≤ xs.length :=
  ⟨RLE.runCount_eq xs, RLE.runs_adjNe xs, RLE.runCount_eq_zero xs, RLE.runCount_le xs⟩


/-- PFOR: the metadata of the analysis are the real properties of the data and of the bytes -/
theorem pfor_meta_true (xs : List Nat) (g : PFOR.Good xs) (t : Nat) :
    PFOR.Facts (PFOR.compute xs t) xs ∧
    (PFOR.compute xs t).exceptionCount = (PFOR.excList (PFOR.compute xs t).thresholdValue 0 xs).length ∧
    PFOR.excs (PFOR.compute xs t) 0 xs =
      (PFOR.excList (PFOR.compute xs t).thresholdValue 0 xs).flatMap (fun p => Tagged.enc p.1 ++ Tagged.enc p.2) :=
  ⟨PFOR.compute_facts xs g t, PFOR.exceptionCount_eq_records xs t⟩

/-- PFOR: the header fields read back from an encoding are min, count and exception count -/
theorem pfor_header_true (xs : List Nat) (g : PFOR.Good xs) (t : Nat) (rest : List Nat) :
    Tagged.get (PFOR.enc xs t ++ rest) = .ok (PFOR.compute xs t).min (Tagged.len (PFOR.compute xs t).min) ∧
    Tagged.get ((PFOR.enc xs t ++ rest).drop (Tagged.len (PFOR.compute xs t).min + 1)) = .ok xs.length (Tagged.len xs.length) ∧
    Tagged.get ((PFOR.enc xs t ++ rest).drop (Tagged.len (PFOR.compute xs t).min + 1 + Tagged.len xs.length +
        xs.length * (PFOR.compute xs t).width)) =
      .ok (PFOR.compute xs t).exceptionCount (Tagged.len (PFOR.compute xs t).exceptionCount) :=
  ⟨PFOR.hdr_min xs g t rest, PFOR.hdr_count xs g t rest, PFOR.hdr_exceptionCount xs g t rest⟩


/-- **the FOR header accessors on the translated C tell the truth** (`varintFORGetMinValue`, `varintFORGetCount`,
    `varintFORGetOffsetWidth`, machine-translated): on the encoding of any non-empty array of 64-bit values they return
    the array's minimum, its element count and the width the analysis chose -/
theorem c_for_accessors_true (xs : List Nat) (g : FOR.Good xs) (rest : List Nat) (hrest : ∀ b ∈ rest, b < 256) :
    Varint.Gen.C.forGetMinValue (Varint.Bridge.Tagged.bufOf (FOR.enc xs ++ rest)) = (FOR.analyze xs).minValue ∧
    Varint.Gen.C.forGetCount (Varint.Bridge.Tagged.bufOf (FOR.enc xs ++ rest)) = xs.length ∧
    Varint.Gen.C.forGetOffsetWidth (Varint.Bridge.Tagged.bufOf (FOR.enc xs ++ rest)) = (FOR.analyze xs).offsetWidth := by
  have hb : ∀ b ∈ FOR.enc xs ++ rest, b < 256 := List.forall_mem_append.2 ⟨Varint.Bridge.FORDec.enc_lt xs g, hrest⟩
  exact Varint.Bridge.FORDec.forAccessors_eq _ hb _ (for_accessor_true xs g rest)


/-- **the group accessors on the translated C tell the truth** (`varintGroupGetSize`, `varintGroupGetFieldWidth`,
    machine-translated): on the encoding of any 1..64 fields they return the encoded length and, for every field index,
    the width its value was stored with -/
theorem c_group_accessors_true (xs : List Nat) (h : Group.Ok xs) (rest : List Nat) (hrest : ∀ b ∈ rest, b < 256)
    (fuel : Nat) (hf : 64 < fuel) :
    Varint.Gen.C.groupGetSize fuel (Varint.Bridge.Tagged.bufOf (Group.enc xs ++ rest)) = some (Group.enc xs).length ∧
    ∀ i, i < xs.length →
      Varint.Gen.C.groupGetFieldWidth (Varint.Bridge.Tagged.bufOf (Group.enc xs ++ rest)) i =
        Group.normW (xs.getD i 0) := by
  have hb : ∀ b ∈ Group.enc xs ++ rest, b < 256 := List.forall_mem_append.2 ⟨Group.enc_lt xs h, hrest⟩
  obtain ⟨g1, g2⟩ := group_accessors_true xs h rest
  refine ⟨Varint.Bridge.Group.groupGetSize_eq _ hb _ g1 fuel hf, ?_⟩
  intro i hi
  exact Varint.Bridge.Group.groupGetFieldWidth_eq _ i _ (by have := h.2.1; omega) (g2 i hi)

end Varint.Props.C16
