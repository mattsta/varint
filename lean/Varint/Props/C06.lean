import Varint.Bridge.Adaptive
import Varint.Lemmas.Adaptive
import Varint.Model.Adaptive
import Varint.Lemmas.Delta
import Varint.Lemmas.FOR
import Varint.Lemmas.Tagged
/-
  C06 — adaptive encoding is lossless whatever it selects.
  Proved here: the header byte, the selector's BITMAP domain (for EVERY outcome of its float
  comparisons), losslessness of the DELTA, FOR and TAGGED arms of the three-arm `decode` for `FOR.Good` arrays
  (non-empty, 64-bit values, fewer than 2^64 of them),
  and of all six arms of `decodeAll` (forced, and for whatever the selector picks) for non-empty arrays of fewer than
  2^32 64-bit values.
-/
namespace Varint.Props.C06
open Varint Varint.Adaptive

/-- the first output byte names the encoding, for forced and for automatic selection -/
theorem adaptive_header_tag (t : Nat) (xs : List Nat) :
    (encodeWith t xs).head? = some t ∧ (encode xs).head? = some (select xs) := by
  simp [encodeWith, encode]

/-- the selector returns one of the six encodings -/
theorem adaptive_select_range (φ : FloatPreds) (s : Stats) : selectWith φ s ≤ 5 := by
  rcases selectWith_spec φ s with h | h | ⟨h, _⟩ | h | h | h
  all_goals rw [h]; decide

/-- BITMAP is selected only for ascending input whose unique count equals its length, below 65536,
    with fewer than 10000 elements (so the unique count is exact, not sampled) — whatever the
    floating-point comparisons evaluate to -/
theorem select_bitmap_domain (φ : FloatPreds) (s : Stats) (h : selectWith φ s = BITMAP) :
    s.isSorted = true ∧ s.uniqueCount = s.count ∧ s.fitsInBitmapRange = true ∧ s.count < 10000 :=
  sel_bitmap_domain φ s h

/-- stated on the input list itself: whatever the float comparisons say, automatic selection picks BITMAP
    only for a strictly increasing sequence of fewer than 10000 values, all below 65536 — the documented
    domain of the bitmap encoding, on which it is lossless. The uniqueness test cannot be fooled by sampling
    or by a failed allocation: for sorted input the count is exact. -/
theorem select_bitmap_input (φ : FloatPreds) (xs : List Nat) (h : selectWith φ (analyze xs) = BITMAP) :
    isStrictAsc xs = true ∧ (∀ x ∈ xs, x < 65536) ∧ xs.length < 10000 :=
  sel_bitmap_input φ xs h

/-- forced DELTA / FOR / TAGGED: decoding with the original count returns the original sequence
    (same order, same duplicates, same length), whatever follows the encoded bytes -/
theorem adaptive_forced_roundtrip (xs : List Nat) (g : FOR.Good xs) (rest : List Nat) :
    decode (encodeWith DELTA xs ++ rest) xs.length = some xs ∧
    decode (encodeWith FOR_ xs ++ rest) xs.length = some xs ∧
    decode (encodeWith TAGGED xs ++ rest) xs.length = some xs := by
  refine ⟨?_, ?_, ?_⟩
  · rw [encodeWith_delta, List.cons_append]
    show (Delta.decU xs.length (Delta.encU xs ++ rest)).map (·.1) = some xs
    rw [Delta.decU_encU xs g.lt rest]; rfl
  · rw [encodeWith_for, List.cons_append]
    show (match FOR.dec (FOR.enc xs ++ rest) xs.length with
      | some (some vs) => some vs | some none => some [] | none => none) = some xs
    rw [FOR.dec_enc xs g xs.length (Nat.le_refl _) rest]
  · rw [encodeWith_tagged TAGGED (otherTag_of_le 5 (Nat.le_refl 5)), List.cons_append]
    exact decTagged_enc xs g.lt rest

/-- automatic selection: lossless whenever the analysis picks DELTA, FOR or TAGGED -/
theorem adaptive_roundtrip_partial (xs : List Nat) (g : FOR.Good xs) (rest : List Nat)
    (hsel : select xs = DELTA ∨ select xs = FOR_ ∨ select xs = TAGGED) :
    decode (encode xs ++ rest) xs.length = some xs := by
  obtain ⟨h1, h2, h3⟩ := adaptive_forced_roundtrip xs g rest
  unfold encode
  rcases hsel with h | h | h <;> rw [h] <;> assumption

example : decode (encodeWith TAGGED [7, 2 ^ 64 - 1, 0]) 3 = some [7, 2 ^ 64 - 1, 0] := by decide

/-! ## every arm: `decodeAll` is the model of varintAdaptiveDecode for all six encodings (compared with the C on
    every adaptive op of the correspondence) -/

/-- whichever encoding the analysis selects — for EVERY outcome of the selector's floating-point
    comparisons — decoding with the original count returns the original sequence; trailing bytes are
    irrelevant. `hacc`: the dictionary encoder refuses more than 2^20 distinct values (the encoder then
    reports failure); it cannot be triggered up to 2^20 elements (`adaptive_roundtrip_upto_2_20`). -/
theorem adaptive_roundtrip (φ : FloatPreds) (xs : List Nat) (hne : xs ≠ []) (hx : ∀ x ∈ xs, x < 2 ^ 64)
    (hn : xs.length < 2 ^ 32) (hacc : selectWith φ (analyze xs) = DICT → Dict.enc xs ≠ []) (rest : List Nat) :
    decodeAll (encodeWith (selectWith φ (analyze xs)) xs ++ rest) xs.length = some xs :=
  adaptive_roundtrip_sel φ xs hne hx hn hacc rest

theorem adaptive_roundtrip_upto_2_20 (φ : FloatPreds) (xs : List Nat) (hne : xs ≠ []) (hx : ∀ x ∈ xs, x < 2 ^ 64)
    (hn : xs.length ≤ 1048576) (rest : List Nat) :
    decodeAll (encodeWith (selectWith φ (analyze xs)) xs ++ rest) xs.length = some xs :=
  adaptive_roundtrip_small φ xs hne hx hn rest

/-- forcing an encoding inside its documented domain is lossless: PFOR and DICT for any accepted array,
    BITMAP for strictly increasing values below 65536 (any capacity: a smaller one yields the prefix) -/
theorem adaptive_forced_all (xs : List Nat) (hne : xs ≠ []) (hx : ∀ x ∈ xs, x < 2 ^ 64) (hn : xs.length < 2 ^ 32)
    (rest : List Nat) :
    decodeAll (encodeWith PFOR_ xs ++ rest) xs.length = some xs ∧
    (Dict.enc xs ≠ [] → decodeAll (encodeWith DICT xs ++ rest) xs.length = some xs) ∧
    (isStrictAsc xs = true → (∀ x ∈ xs, x < 65536) →
      ∀ cap, decodeAll (encodeWith BITMAP xs ++ rest) cap = some (xs.take cap)) ∧
    decodeAll (encodeWith DELTA xs ++ rest) xs.length = some xs ∧
    decodeAll (encodeWith FOR_ xs ++ rest) xs.length = some xs ∧
    decodeAll (encodeWith TAGGED xs ++ rest) xs.length = some xs :=
  ⟨pfor_forced xs ⟨hne, hn, hx⟩ rest, fun h => dict_forced xs hx hn h rest,
   fun ha hl cap => bitmap_forced_cap xs ha hl rest cap, delta_forced xs hx rest,
   for_forced xs ⟨hne, hx, by omega⟩ rest, tagged_forced TAGGED (by simp [TAGGED]) xs hx (by omega) rest⟩

/-- **on the machine translation of `varintAdaptiveCheckSorted`** (the loop with its early exit, regenerated from
    src/varintAdaptive.c on every run): the answer the selector's `isSorted` / `isReverseSorted` flags are derived from
    is exact for every array — 1 iff non-decreasing, else -1 iff non-increasing, else 0: no neighbour pair is skipped
    (the BITMAP arm, which stores a set, is only sound for input that really is ascending) -/
theorem c_check_sorted_exact (xs : List Nat) (hn : xs.length < 2 ^ 63) (fuel : Nat) (hf : xs.length ≤ fuel) :
    Varint.Gen.C.adaptiveCheckSorted fuel (Varint.Bridge.Tagged.bufOf xs) xs.length =
      some (if (Adaptive.analyze xs).isSorted then 1 else if (Adaptive.analyze xs).isReverseSorted then -1 else 0) := by
  rw [Varint.Bridge.Adaptive.adaptiveCheckSorted_eq xs hn fuel hf]
  unfold Adaptive.analyze
  simp only []
  cases Adaptive.isAsc xs <;> cases Adaptive.isDesc xs <;> rfl

end Varint.Props.C06
