import Varint.Lemmas.Add
import Varint.Bridge.TaggedAdd
import Varint.Bridge.External
import Varint.Lemmas.Tagged
import Varint.Lemmas.External
/-
  C12 — in-place add stores the exact sum and never outgrows a no-grow slot.
  `add stored origLen amount force = (returned width, bytes written by the call | none)`.
  `stored` is the value decoded from the slot, `origLen` the width the slot currently has
  (for tagged: the length its first byte announces, which may be a padded fixed width).
-/
namespace Varint.Props.C12
open Varint

def overflows (stored : Nat) (amount : Int) : Prop :=
  toI64 stored + amount < -(2 ^ 63 : Int) ∨ toI64 stored + amount > (2 ^ 63 : Int) - 1

instance (stored : Nat) (amount : Int) : Decidable (overflows stored amount) := by
  unfold overflows; exact inferInstance

/-- the 64-bit pattern of old+amount -/
def newVal (stored : Nat) (amount : Int) : Nat := toU64 (toI64 stored + amount)

theorem newVal_lt (stored : Nat) (amount : Int) : newVal stored amount < 2 ^ 64 := toU64_lt _

theorem newVal_exact (stored : Nat) (amount : Int) (h : ¬ overflows stored amount) :
    toI64 (newVal stored amount) = toI64 stored + amount := by
  unfold overflows at h
  exact toI64_toU64 _ (by omega) (by omega)

/-- the shape `Tagged.add` and `External.add` share; `len` is the family's width function, `enc` its encoder -/
def addWith (len : Nat → Nat) (enc : Nat → List Nat) (stored origLen : Nat) (amount : Int) (force : Bool) :
    Nat × Option (List Nat) :=
  if overflows stored amount then (0, none)
  else if len (newVal stored amount) > origLen ∧ (!force) = true then (len (newVal stored amount), none)
  else (len (newVal stored amount), some (enc (newVal stored amount)))

private theorem tagged_add_eq : Tagged.add = addWith Tagged.len Tagged.enc := by
  funext stored origLen amount force
  unfold Tagged.add addWith
  rfl

private theorem ext_add_eq : External.add = addWith extLen External.enc := by
  funext stored origLen amount force
  unfold External.add addWith
  rfl

section addWith
variable {len : Nat → Nat} {enc : Nat → List Nat} (stored origLen : Nat) (amount : Int)

theorem addWith_overflow (force : Bool) (h : overflows stored amount) :
    addWith len enc stored origLen amount force = (0, none) :=
  if_pos h

theorem addWith_fits (force : Bool) (h : ¬ overflows stored amount)
    (hfit : force = true ∨ len (newVal stored amount) ≤ origLen) :
    addWith len enc stored origLen amount force
      = (len (newVal stored amount), some (enc (newVal stored amount))) := by
  have hcond : ¬ (len (newVal stored amount) > origLen ∧ (!force) = true) := by
    rcases hfit with hf | hf
    · simp [hf]
    · intro hc; have := hc.1; omega
  rw [addWith, if_neg h, if_neg hcond]

theorem addWith_nogrow (h : ¬ overflows stored amount) (hbig : origLen < len (newVal stored amount)) :
    addWith len enc stored origLen amount false = (len (newVal stored amount), none) := by
  rw [addWith, if_neg h, if_pos ⟨hbig, rfl⟩]

/-- whatever is written is the encoding of the new value, and without `force` only if it fits -/
theorem addWith_written (force : Bool) (bs : List Nat)
    (h : (addWith len enc stored origLen amount force).2 = some bs) :
    bs = enc (newVal stored amount) ∧ (force = false → len (newVal stored amount) ≤ origLen) := by
  unfold addWith at h
  split at h
  · simp at h
  · split at h
    · simp at h
    · rename_i hc
      simp only [Option.some.injEq] at h
      refine ⟨h.symm, fun hf => ?_⟩
      simp [hf] at hc
      omega

end addWith

/-! ## tagged -/

/-- signed 64-bit overflow: failure (width 0) and the bytes are untouched -/
theorem tagged_add_overflow_unchanged (stored origLen : Nat) (amount : Int) (force : Bool)
    (h : overflows stored amount) : Tagged.add stored origLen amount force = (0, none) := by
  rw [tagged_add_eq]
  exact addWith_overflow _ _ _ _ h

/-- grow form, or no-grow form whose result fits: exactly old+amount is stored (as int64),
    the returned width is the width of what is now stored, it decodes back, and is at most 9 -/
theorem tagged_add_exact_sum (stored origLen : Nat) (amount : Int) (force : Bool)
    (h : ¬ overflows stored amount)
    (hfit : force = true ∨ Tagged.len (newVal stored amount) ≤ origLen) (rest : List Nat) :
    Tagged.add stored origLen amount force
      = (Tagged.len (newVal stored amount), some (Tagged.enc (newVal stored amount))) ∧
    toI64 (newVal stored amount) = toI64 stored + amount ∧
    Tagged.get (Tagged.enc (newVal stored amount) ++ rest)
      = .ok (newVal stored amount) (Tagged.len (newVal stored amount)) ∧
    (Tagged.enc (newVal stored amount)).length = Tagged.len (newVal stored amount) ∧
    Tagged.len (newVal stored amount) ≤ 9 := by
  refine ⟨?_, newVal_exact _ _ h, ?_, Tagged.enc_length _, (Tagged.len_bounds _).2⟩
  · rw [tagged_add_eq]
    exact addWith_fits _ _ _ _ h hfit
  · rw [Tagged.get_enc _ (newVal_lt _ _) rest, Tagged.enc_length]

/-- no-grow form whose result does not fit: nothing is written, the width required is returned -/
theorem tagged_add_nogrow_unchanged (stored origLen : Nat) (amount : Int)
    (h : ¬ overflows stored amount) (hbig : origLen < Tagged.len (newVal stored amount)) :
    Tagged.add stored origLen amount false = (Tagged.len (newVal stored amount), none) := by
  rw [tagged_add_eq]
  exact addWith_nogrow _ _ _ h hbig

/-- in no case does the no-grow form write a byte at index ≥ the current width -/
theorem tagged_add_nogrow_no_write_beyond (stored origLen : Nat) (amount : Int) (bs : List Nat)
    (h : (Tagged.add stored origLen amount false).2 = some bs) : bs.length ≤ origLen := by
  rw [tagged_add_eq] at h
  obtain ⟨rfl, hfit⟩ := addWith_written _ _ _ _ _ h
  rw [Tagged.enc_length]
  exact hfit rfl

/-- the grow form extends to at most the family's maximum length -/
theorem tagged_add_grow_le_max (stored origLen : Nat) (amount : Int) (bs : List Nat)
    (h : (Tagged.add stored origLen amount true).2 = some bs) : bs.length ≤ 9 := by
  rw [tagged_add_eq] at h
  obtain ⟨rfl, _⟩ := addWith_written _ _ _ _ _ h
  rw [Tagged.enc_length]
  exact (Tagged.len_bounds _).2

/-! ## the same on the machine translation of `varintTaggedAddNoGrow` / `varintTaggedAddGrow`, and of
`varintExternalAdd_` (`c_ext_add`, ahead of the model-level external section)

`Gen.C.taggedAdd*` is regenerated from src/varintTagged.c on every run (slot read, `__builtin_saddll_overflow`,
re-encode in place); `Bridge.TaggedAdd` proves it equal to the model for every slot the tagged reader accepts and
every amount. -/

/-- the slot holds a tagged varint: value `stored`, announced width `origLen` -/
def Slot (bs : List Nat) (stored origLen : Nat) : Prop :=
  (∀ b ∈ bs, b < 256) ∧ Tagged.get bs = .ok stored origLen ∧ stored < 2 ^ 64

/-- C12 in full on the translated C. For every slot and every int64 amount:
    (1) signed overflow ⇒ both forms return 0 and store nothing;
    (2) otherwise the no-grow form stores nothing at an index ≥ the slot's width — when the sum needs more bytes it
        stores nothing at all and returns the width required;
    (3) whenever bytes are stored they are, at indices 0,1,…, the encoding of exactly old+amount (as int64), and the
        return value is their number;
    (4) the grow form stores at most 9 bytes. -/
theorem c_tagged_add (bs : List Nat) (stored origLen : Nat) (hslot : Slot bs stored origLen) (amount : Int)
    (ha1 : -(2 ^ 63 : Int) ≤ amount) (ha2 : amount < (2 ^ 63 : Int)) :
    let ng := Varint.Gen.C.taggedAddNoGrow (Varint.Bridge.Tagged.bufOf bs) amount
    let g := Varint.Gen.C.taggedAddGrow (Varint.Bridge.Tagged.bufOf bs) amount
    (overflows stored amount → ng = (0, []) ∧ g = (0, [])) ∧
    (∀ p ∈ ng.2, p.1 < origLen) ∧
    (¬ overflows stored amount → origLen < Tagged.len (newVal stored amount) →
        ng = (Tagged.len (newVal stored amount), [])) ∧
    (¬ overflows stored amount →
        g = (Tagged.len (newVal stored amount), Varint.Bridge.storesFrom 0 (Tagged.enc (newVal stored amount))) ∧
        toI64 (newVal stored amount) = toI64 stored + amount ∧
        (Tagged.len (newVal stored amount) ≤ origLen → ng = g)) ∧
    g.2.length ≤ 9 := by
  obtain ⟨hb, hget, _⟩ := hslot
  simp only []
  rw [Varint.Bridge.TaggedAdd.taggedAddNoGrow_eq bs hb stored origLen hget amount,
    Varint.Bridge.TaggedAdd.taggedAddGrow_eq bs hb stored origLen hget amount]
  refine ⟨?_, ?_, ?_, ?_, ?_⟩
  · intro h
    rw [tagged_add_overflow_unchanged _ _ _ _ h, tagged_add_overflow_unchanged _ _ _ _ h]
    exact ⟨rfl, rfl⟩
  · intro p hp
    cases h2 : (Tagged.add stored origLen amount false).2 with
    | none => rw [h2] at hp; simp [Varint.Bridge.TaggedAdd.storesOf] at hp
    | some w =>
      rw [h2] at hp
      have hl := tagged_add_nogrow_no_write_beyond stored origLen amount w h2
      simp only [Varint.Bridge.TaggedAdd.storesOf] at hp
      have hf : p.1 ∈ (Varint.Bridge.storesFrom 0 w).map Prod.fst := List.mem_map_of_mem hp
      rw [Varint.Bridge.storesFrom_fst, List.mem_range'] at hf
      obtain ⟨i, hi, he⟩ := hf
      omega
  · intro h hbig
    rw [tagged_add_nogrow_unchanged _ _ _ h hbig]; rfl
  · intro h
    have hg := (tagged_add_exact_sum stored origLen amount true h (Or.inl rfl) []).1
    refine ⟨by rw [hg]; rfl, newVal_exact _ _ h, ?_⟩
    intro hfit
    have hn := (tagged_add_exact_sum stored origLen amount false h (Or.inr hfit) []).1
    rw [hn, hg]
  · cases h2 : (Tagged.add stored origLen amount true).2 with
    | none => simp [Varint.Bridge.TaggedAdd.storesOf]
    | some w =>
      have := tagged_add_grow_le_max stored origLen amount w h2
      simp only [Varint.Bridge.TaggedAdd.storesOf, Varint.Bridge.storesFrom_length]
      exact this

/-- **on the machine translation of `varintExternalAdd_`** (`AddNoGrow` = force 0, `AddGrow` = force 1): for every slot
    of 1..8 bytes, every int64 amount and every fuel ≥ 8 the C returns the model's width and its memory effect is the
    model's — nothing (overflow, or no-grow with a result that does not fit), or the minimal little-endian bytes of
    exactly old+amount, each stored once and none at or beyond their number. The model-level theorems below
    (`ext_add_*`) then give the property's clauses. -/
theorem c_ext_add (p : Nat → Nat) (w : Nat) (h1 : 1 ≤ w) (h8 : w ≤ 8) (hb : ∀ i, i < w → p i < 256) (amount : Int)
    (force : Nat) (fuel : Nat) (hf : 8 ≤ fuel) :
    ∃ stores, Varint.Gen.C.extAdd fuel p w amount force =
        some ((External.add (ofLe ((List.range w).map p)) w amount (decide (force ≠ 0))).1, stores) ∧
      Varint.Bridge.External.AddWrites stores
        (External.add (ofLe ((List.range w).map p)) w amount (decide (force ≠ 0))).2 :=
  Varint.Bridge.External.extAdd_eq p w h1 h8 hb amount force fuel hf

/-- non-vacuity: a 2-byte slot holding 300, +5 fits, +70000 does not (no-grow leaves it alone, grow extends to 4) -/
example : Slot [241, 60, 0, 0] 300 2 := by
  refine ⟨by decide, by decide, by decide⟩

/-! ## external -/

theorem ext_add_overflow_unchanged (stored origLen : Nat) (amount : Int) (force : Bool)
    (h : overflows stored amount) : External.add stored origLen amount force = (0, none) := by
  rw [ext_add_eq]
  exact addWith_overflow _ _ _ _ h

theorem ext_add_exact_sum (stored origLen : Nat) (amount : Int) (force : Bool)
    (h : ¬ overflows stored amount)
    (hfit : force = true ∨ extLen (newVal stored amount) ≤ origLen) (rest : List Nat) :
    External.add stored origLen amount force
      = (extLen (newVal stored amount), some (External.enc (newVal stored amount))) ∧
    toI64 (newVal stored amount) = toI64 stored + amount ∧
    External.get (External.enc (newVal stored amount) ++ rest) (extLen (newVal stored amount))
      = some (newVal stored amount) ∧
    (External.enc (newVal stored amount)).length = extLen (newVal stored amount) ∧
    extLen (newVal stored amount) ≤ 8 := by
  refine ⟨?_, newVal_exact _ _ h, External.get_enc _ rest, External.enc_length _,
    extLen_le_8 (newVal_lt _ _)⟩
  rw [ext_add_eq]
  exact addWith_fits _ _ _ _ h hfit

theorem ext_add_nogrow_unchanged (stored origLen : Nat) (amount : Int)
    (h : ¬ overflows stored amount) (hbig : origLen < extLen (newVal stored amount)) :
    External.add stored origLen amount false = (extLen (newVal stored amount), none) := by
  rw [ext_add_eq]
  exact addWith_nogrow _ _ _ h hbig

theorem ext_add_nogrow_no_write_beyond (stored origLen : Nat) (amount : Int) (bs : List Nat)
    (h : (External.add stored origLen amount false).2 = some bs) : bs.length ≤ origLen := by
  rw [ext_add_eq] at h
  obtain ⟨rfl, hfit⟩ := addWith_written _ _ _ _ _ h
  rw [External.enc_length]
  exact hfit rfl

theorem ext_add_grow_le_max (stored origLen : Nat) (amount : Int) (bs : List Nat)
    (h : (External.add stored origLen amount true).2 = some bs) : bs.length ≤ 8 := by
  rw [ext_add_eq] at h
  obtain ⟨rfl, _⟩ := addWith_written _ _ _ _ _ h
  rw [External.enc_length]
  exact extLen_le_8 (newVal_lt _ _)

/-- non-vacuity / the D1 witness: 0xff in a 1-byte no-grow slot, +1 -/
example : External.add 0xff 1 1 false = (2, none) := by decide
example : External.add 0xff 1 1 true = (2, some [0, 1]) := by decide
example : Tagged.add 240 1 1 false = (2, none) := by decide
example : overflows (2 ^ 63 - 1) 1 := by decide

end Varint.Props.C12
