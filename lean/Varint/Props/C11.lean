import Varint.Lemmas.Bitstream
import Varint.Bridge.Bits
import Varint.Bridge.BitsSigned
import Varint.Lemmas.External
/-
  C11 — bitstream writes are exact and isolated.
  `W` is the slot width (8, 16, 32 or 64 — any positive width in fact); a bit offset is written
  `i*W + o` (word `i`, `o` bits from its most significant end); `ws` is the slot array.
-/
namespace Varint.Props.C11
open Varint Varint.Bitstream

/-- the words the range [off, off+n) overlaps exist -/
def InRange (W i o n : Nat) (ws : List Nat) : Prop := (if n ≤ W - o then i else i + 1) < ws.length

/-- a read at the same offset and width returns the written value — any prior contents -/
theorem bits_get_set (W i o n v : Nat) (ws : List Nat) (hW : 0 < W) (ho : o < W) (hn1 : 1 ≤ n) (hnW : n ≤ W)
    (hv : v < 2 ^ n) (hr : InRange W i o n ws) :
    get W (set W ws (i * W + o) n v) (i * W + o) n = v :=
  get_set W i o n v ws hW ho hv hr

/-- no bit outside [off, off+n) changes (bit `r` of word `j` is stream position j*W + r) -/
theorem bits_outside (W i o n v : Nat) (ws : List Nat) (j r : Nat) (hW : 0 < W) (ho : o < W) (hr : r < W)
    (hn1 : 1 ≤ n) (hnW : n ≤ W) (hv : v < 2 ^ n) (hrg : InRange W i o n ws)
    (hout : j * W + r < i * W + o ∨ i * W + o + n ≤ j * W + r) :
    bitAt W (set W ws (i * W + o) n v) j r = bitAt W ws j r :=
  bit_outside W i o n v ws j r hW ho hr hnW hv hrg hout

/-- only the word(s) overlapping the range are written: word off/W, and word off/W+1 only when the
    range crosses into it; the stream keeps its length -/
theorem bits_words_touched (W off n v : Nat) (ws : List Nat) (j : Nat)
    (hj : j ≠ off / W ∧ (n ≤ W - off % W ∨ j ≠ off / W + 1)) :
    (set W ws off n v).getD j 0 = ws.getD j 0 ∧ (set W ws off n v).length = ws.length :=
  set_other_words W off n v ws j hj

/-- …and its words stay W-bit words -/
theorem bits_words_stay_words (W i o n v : Nat) (ws : List Nat) (hW : 0 < W) (ho : o < W)
    (hnW : n ≤ W) (hv : v < 2 ^ n) (hws : ∀ j, ws.getD j 0 < 2 ^ W) (j : Nat) (hr : InRange W i o n ws) :
    (set W ws (i * W + o) n v).getD j 0 < 2 ^ W :=
  set_words_lt W i o n v ws hW ho hnW hv hws j hr

/-- signed helpers: every value representable with sign + magnitude in an n-bit field is restored,
    and the prepared value fits the field -/
theorem bits_signed_roundtrip (n : Nat) (hn : 2 ≤ n) (s : Int)
    (hlo : -(2 ^ (n - 1) : Int) < s) (hhi : s < (2 ^ (n - 1) : Int)) :
    restoreSigned n (prepareSigned n s) = s ∧ prepareSigned n s < 2 ^ n := by
  have := sign_restore_prepare (n - 1) s hlo hhi
  have e : n - 1 + 1 = n := by omega
  rw [e] at this
  exact this

/-! ## the same statements on the machine translation of src/varintBitstream.h (64-bit slots)

`Gen.C.bitstreamSet/Get` are regenerated from the header on every run; `Bridge.Bits` proves them equal to the model
for every bit offset below 2^64 — also the offsets beyond 2^31 and 2^32 bits that no test reaches. -/

/-- write then read at the same offset and width through the C code returns the value — any prior contents -/
theorem c_bits_get_set (i o n v : Nat) (ws : List Nat) (hws : ∀ w ∈ ws, w < 2 ^ 64) (hoff : i * 64 + o < 2 ^ 64)
    (ho : o < 64) (hn1 : 1 ≤ n) (hn : n ≤ 64) (hv : v < 2 ^ n) (hr : InRange 64 i o n ws) :
    Varint.Gen.C.bitstreamGet
      (Varint.Bridge.Bits.memOf (Varint.Bridge.applyStores ws
        (Varint.Gen.C.bitstreamSet (Varint.Bridge.Bits.memOf ws) (i * 64 + o) n v))) (i * 64 + o) n = v := by
  rw [Varint.Bridge.Bits.bitstreamSet_eq ws hws _ n v hn hv,
    Varint.Bridge.Bits.bitstreamGet_eq _ ?_ _ n hn]
  · exact bits_get_set 64 i o n v ws (by omega) ho hn1 hn hv hr
  · intro w hw
    obtain ⟨j, hj, rfl⟩ := List.getElem_of_mem hw
    have := bits_words_stay_words 64 i o n v ws (by omega) ho hn hv (fun j => ?_) j hr
    · rw [List.getD_eq_getElem?_getD, List.getElem?_eq_getElem hj] at this; simpa using this
    · exact Varint.Bridge.Bits.memOf_lt ws hws j

/-- the C stores to slot off/64, and to slot off/64 + 1 only when the range crosses into it: nothing else -/
theorem c_bits_slots_stored (mem : Nat → Nat) (hm : ∀ j, mem j < 2 ^ 64) (off n v : Nat) (hoff : off < 2 ^ 64)
    (hn1 : 1 ≤ n) (hn : n ≤ 64) (hv : v < 2 ^ n) :
    (Varint.Gen.C.bitstreamSet mem off n v).map Prod.fst =
      if n ≤ 64 - off % 64 then [off / 64] else [off / 64, off / 64 + 1] := by
  rw [Varint.Bridge.Bits.bitstreamSet_stores mem hm off n v hn hv]
  split <;> rfl

/-- no bit outside [off, off+n) changes when the C's stores are carried out -/
theorem c_bits_outside (i o n v : Nat) (ws : List Nat) (hws : ∀ w ∈ ws, w < 2 ^ 64) (hoff : i * 64 + o < 2 ^ 64)
    (j r : Nat) (ho : o < 64) (hr : r < 64) (hn1 : 1 ≤ n) (hn : n ≤ 64) (hv : v < 2 ^ n) (hrg : InRange 64 i o n ws)
    (hout : j * 64 + r < i * 64 + o ∨ i * 64 + o + n ≤ j * 64 + r) :
    bitAt 64 (Varint.Bridge.applyStores ws
      (Varint.Gen.C.bitstreamSet (Varint.Bridge.Bits.memOf ws) (i * 64 + o) n v)) j r = bitAt 64 ws j r := by
  rw [Varint.Bridge.Bits.bitstreamSet_eq ws hws _ n v hn hv]
  exact bits_outside 64 i o n v ws j r (by omega) ho hr hn1 hn hv hrg hout

/-- non-vacuity: the documented 32-bit example, a write crossing a word boundary -/
example : InRange 32 0 24 12 [0, 0, 0, 0] := by unfold InRange; decide
example : get 32 (set 32 (set 32 [0, 0, 0, 0] 12 12 3000) 24 12 1500) 12 12 = 3000 := by decide
example : get 64 (set 64 [0, 0] 50 40 0xABCDEF1234) 50 40 = 0xABCDEF1234 := by decide

/-- **the signed helpers on the translated macros** (`_varintBitstreamPrepareSigned` / `_varintBitstreamRestoreSigned`,
    expanded from the CURRENT header): for every field width 2..63 and every negative value whose magnitude fits the
    field's n-1 value bits, the prepared value fits n bits and restoring it gives the value back; a stored value whose
    sign bit is clear is restored unchanged -/
theorem c_bits_signed_roundtrip (n : Nat) (h2 : 2 ≤ n) (h63 : n ≤ 63) (s : Int) (hneg : s < 0)
    (hlo : -(2 ^ (n - 1) : Int) < s) :
    Varint.Gen.C.bitsPrepareSigned s n < 2 ^ n ∧
    Varint.Gen.C.bitsRestoreSigned (Varint.Gen.C.bitsPrepareSigned s n) n = s ∧
    (∀ r, r < 2 ^ (n - 1) → Varint.Gen.C.bitsRestoreSigned r n = (r : Int)) := by
  have hcast : ((2 ^ (n - 1) : Nat) : Int) = (2 ^ (n - 1) : Int) := by simp
  have hpos : 0 < 2 ^ (n - 1) := Nat.two_pow_pos _
  have hmag : (-s).toNat < 2 ^ (n - 1) := by omega
  obtain ⟨m1, m2⟩ := bits_signed_roundtrip n h2 s hlo (by omega)
  rw [Varint.Bridge.BitsSigned.bitsPrepareSigned_eq s n h2 h63 hneg hmag]
  refine ⟨m2, ?_, ?_⟩
  · rw [Varint.Bridge.BitsSigned.bitsRestoreSigned_eq _ n h2 h63 m2]; exact m1
  · intro r hr
    have hpn : 2 ^ (n - 1) < 2 ^ n := Nat.pow_lt_pow_right (by omega) (by omega)
    rw [Varint.Bridge.BitsSigned.bitsRestoreSigned_eq r n h2 h63 (by omega)]
    unfold Bitstream.restoreSigned
    have : r / 2 ^ (n - 1) = 0 := Nat.div_eq_of_lt hr
    rw [this]
    simp

end Varint.Props.C11
