import Varint.Bridge.Tagged
import Varint.Bridge.CSimple
import Varint.Bridge.ChainedW
import Varint.Lemmas.Canon
import Varint.Lemmas.Spec
import Varint.Lemmas.Mono
import Varint.Lemmas.External
import Varint.Gen.Constants
import Varint.Gen.Readme
import Varint.Gen.Statics
/-
  C04 — scalar wire formats are byte-exact, canonical and length-monotone.
  `Spec.*` are written from the documentation; `Gen.*` is regenerated from the headers and the
  README on every run, so code, headers and README are proved to agree.
-/
namespace Varint.Props.C04
open Varint

/-! ## byte-exactness: the encoder's bytes are the documented format's bytes -/

/-- the models below are functions of the value alone; the code can only be such a function if no encoder keeps
    scratch or state in static storage (regenerated from the objects built from /repo on every run) -/
theorem bytes_depend_on_the_value_only : Gen.writableStatics = [] := by decide

theorem tagged_spec_valid (v : Nat) (hv : v < 2 ^ 64) : Tagged.enc v = Spec.tagged v :=
  tagged_enc_eq_spec v hv

theorem chained_spec_valid (v : Nat) (hv : v < 2 ^ 64) : Chained.enc v = Spec.chained v :=
  chained_enc_eq_spec v hv

theorem csimple_spec_valid (v : Nat) (hv : v < 2 ^ 64) : ChainedSimple.enc v = Spec.leb128cap9 v :=
  csimple_enc_eq_spec v hv

/-- on the machine translation of `varintChainedSimpleEncode64`: the bytes stored are the documented format's -/
theorem c_csimple_spec_valid (v : Nat) (hv : v < 2 ^ 64) (fuel : Nat) (hf : 9 ≤ fuel) :
    Varint.Gen.C.csEncode64 fuel v =
      some ((Spec.leb128cap9 v).length, Varint.Bridge.storesFrom 0 (Spec.leb128cap9 v)) := by
  rw [Varint.Bridge.CSimple.csEncode64_eq v fuel hf, csimple_enc_eq_spec v hv]

/-- on the machine translation of `varintChainedPutVarint` / `putVarint64`: the memory the writer leaves is the
    documented sqlite3 format (big-endian 7-bit groups, full ninth byte), for every 64-bit value -/
theorem c_chained_spec_valid (v : Nat) (hv : v < 2 ^ 64) (fuel : Nat) (hf : 10 ≤ fuel) :
    ∃ stores, Varint.Gen.C.chainedPutVarint fuel v = some ((Spec.chained v).length, stores) ∧
      Varint.Bridge.External.Writes stores (Spec.chained v) := by
  rw [← chained_enc_eq_spec v hv]
  exact Varint.Bridge.ChainedW.chainedPutVarint_eq v fuel hv hf

/-- external: the minimal little- (big-) endian slice: `k` bytes hold `v`, `k-1` would not -/
theorem ext_spec_valid (v : Nat) :
    External.enc v = leBytes (extLen v) v ∧ ExternalBE.enc v = beBytes (extLen v) v ∧
    v < 256 ^ extLen v ∧ (extLen v = 1 ∨ 256 ^ (extLen v - 1) ≤ v) := by
  refine ⟨rfl, rfl, lt_pow_extLen v, ?_⟩
  have h1 := extLen_pos v
  by_cases h : extLen v = 1
  · exact Or.inl h
  · right
    obtain ⟨k, hk⟩ : ∃ k, extLen v = k + 2 := ⟨extLen v - 2, by omega⟩
    rw [hk]; exact pow_le_of_extLen hk

/-- split layouts exactly as in the "Data Layout" comments of the four headers (here varintSplit.h; the other three
    families in `sfull_layout`, `snz_layout`, `s16_layout` below):
    embedded level = (prefix | high 6 bits) then big-endian low bytes of (v − previous levels);
    external level = (prefix | width) then little-endian (v − previous levels) in the minimal width,
    never below the family's minimum width (never-shrink rule) -/
theorem split_layout (v : Nat) :
    (v ≤ 63 → Split.S.enc v = [v]) ∧
    (63 < v → v ≤ 16446 → Split.S.enc v = [64 + (v - 63) / 256, (v - 63) % 256]) ∧
    (16446 < v → Split.S.enc v = (128 + extLen (v - 16446)) :: leBytes (extLen (v - 16446)) (v - 16446)) := by
  unfold Split.S.enc
  refine ⟨fun h => ?_, fun h1 h2 => ?_, fun h1 => ?_⟩
  · rw [if_pos h, Split.encLevel_zero 0 0 v (by omega), Nat.zero_add, Nat.sub_zero]
  · rw [if_neg (by omega), if_pos h2, Split.encLevel_one 64 63 v (by omega)]
  · rw [if_neg (by omega), if_neg (by omega), Split.encVar_eq, Split.varW_eq_max,
      Nat.max_eq_right (extLen_pos _)]

theorem sfull_layout (v : Nat) :
    (v ≤ 63 → Split.F.enc v = [v]) ∧
    (63 < v → v ≤ 16446 → Split.F.enc v = [64 + (v - 63) / 256, (v - 63) % 256]) ∧
    (16446 < v → v ≤ 4210749 →
      Split.F.enc v = [128 + (v - 16446) / 65536, (v - 16446) / 256 % 256, (v - 16446) % 256]) ∧
    (4210749 < v → Split.F.enc v =
      (192 + max 2 (extLen (v - 4210749))) :: leBytes (max 2 (extLen (v - 4210749))) (v - 4210749)) := by
  unfold Split.F.enc
  refine ⟨fun h => ?_, fun h1 h2 => ?_, fun h1 h2 => ?_, fun h1 => ?_⟩
  · rw [if_pos h, Split.encLevel_zero 0 0 v (by omega), Nat.zero_add, Nat.sub_zero]
  · rw [if_neg (by omega), if_pos h2, Split.encLevel_one 64 63 v (by omega)]
  · rw [if_neg (by omega), if_neg (by omega), if_pos h2, Split.encLevel_two 128 16446 v (by omega)]
  · rw [if_neg (by omega), if_neg (by omega), if_neg (by omega), Split.encVar_eq, Split.varW_eq_max]

theorem snz_layout (v : Nat) (hz : 1 ≤ v) :
    (v ≤ 64 → Split.NZ.enc v = [v - 1]) ∧
    (64 < v → v ≤ 16447 → Split.NZ.enc v = [64 + (v - 64) / 256, (v - 64) % 256]) ∧
    (16447 < v → v ≤ 4210750 →
      Split.NZ.enc v = [128 + (v - 16447) / 65536, (v - 16447) / 256 % 256, (v - 16447) % 256]) ∧
    (4210750 < v → Split.NZ.enc v =
      (192 + max 2 (extLen (v - 4210750))) :: leBytes (max 2 (extLen (v - 4210750))) (v - 4210750)) := by
  unfold Split.NZ.enc
  refine ⟨fun h => ?_, fun h1 h2 => ?_, fun h1 h2 => ?_, fun h1 => ?_⟩
  · rw [if_pos h, Split.encLevel_zero 0 1 v (by omega), Nat.zero_add]
  · rw [if_neg (by omega), if_pos h2, Split.encLevel_one 64 64 v (by omega)]
  · rw [if_neg (by omega), if_neg (by omega), if_pos h2, Split.encLevel_two 128 16447 v (by omega)]
  · rw [if_neg (by omega), if_neg (by omega), if_neg (by omega), Split.encVar_eq, Split.varW_eq_max]

theorem s16_layout (v : Nat) :
    (v ≤ 16383 → Split.S16.enc v = [v / 256, v % 256]) ∧
    (16383 < v → v ≤ 4210686 →
      Split.S16.enc v = [64 + (v - 16383) / 65536, (v - 16383) / 256 % 256, (v - 16383) % 256]) ∧
    (4210686 < v → v ≤ 1077952509 →
      Split.S16.enc v = [128 + (v - 4210686) / 16777216, (v - 4210686) / 65536 % 256,
                         (v - 4210686) / 256 % 256, (v - 4210686) % 256]) ∧
    (1077952509 < v → Split.S16.enc v =
      (192 + max 4 (extLen (v - 1077952509))) :: leBytes (max 4 (extLen (v - 1077952509))) (v - 1077952509)) := by
  unfold Split.S16.enc
  refine ⟨fun h => ?_, fun h1 h2 => ?_, fun h1 h2 => ?_, fun h1 => ?_⟩
  · rw [if_pos h, Split.encLevel_one 0 0 v (by omega), Nat.zero_add, Nat.sub_zero]
  · rw [if_neg (by omega), if_pos h2, Split.encLevel_two 64 16383 v (by omega)]
  · rw [if_neg (by omega), if_neg (by omega), if_pos h2, Split.encLevel_three 128 4210686 v (by omega)]
  · rw [if_neg (by omega), if_neg (by omega), if_neg (by omega), Split.encVar_eq, Split.varW_eq_max]

/-! ## one encoding per value (the encoder is a function) and it is the shortest the decoder accepts -/

/-- tagged: whatever bytes decode to `v` are at least as long as the encoder's output (that bytes of exactly that
    length are the encoder's bytes is `tagged_unique_in_class`) -/
theorem tagged_canonical (bs : List Nat) (v l : Nat) (hb : ∀ b ∈ bs, b < 256)
    (h : Tagged.get bs = .ok v l) : Tagged.len v ≤ l :=
  Tagged.get_len_le bs v l hb h

/-! ## encoded length never decreases as the value grows -/

theorem tagged_len_mono {a b : Nat} (h : a ≤ b) : Tagged.len a ≤ Tagged.len b := Tagged.len_mono h
theorem ext_len_mono {a b : Nat} (h : a ≤ b) : extLen a ≤ extLen b := extLen_mono h
theorem chained_len_mono {a b : Nat} (h : a ≤ b) : Chained.len a ≤ Chained.len b := by
  have := len7_mono h; unfold Chained.len; split <;> split <;> omega
theorem csimple_len_mono {a b : Nat} (h : a ≤ b) : ChainedSimple.len a ≤ ChainedSimple.len b := by
  have := len7_mono h; unfold ChainedSimple.len; split <;> split <;> omega
theorem split_len_mono {a b : Nat} (h : a ≤ b) : Split.S.len a ≤ Split.S.len b := Split.S.len_mono h
/-- split-full: monotone *because of* the documented never-shrink rule (minimum external width 2) -/
theorem sfull_len_mono {a b : Nat} (h : a ≤ b) : Split.F.len a ≤ Split.F.len b := Split.F.full.len_mono h
theorem snz_len_mono {a b : Nat} (h : a ≤ b) : Split.NZ.len a ≤ Split.NZ.len b := Split.NZ.full.len_mono h
theorem s16_len_mono {a b : Nat} (h : a ≤ b) : Split.S16.len a ≤ Split.S16.len b := Split.S16.full.len_mono h

/-! ## per-length maxima: code = header constants = README tables -/

/-- `len v ≤ k ↔ v ≤ VARINT_TAGGED_MAX_k`, constants regenerated from varintTagged.h -/
theorem tagged_maxima (v : Nat) (hv : v < 2 ^ 64) :
    (Tagged.len v ≤ 1 ↔ v ≤ Gen.TAGGED_MAX_1) ∧ (Tagged.len v ≤ 2 ↔ v ≤ Gen.TAGGED_MAX_2) ∧
    (Tagged.len v ≤ 3 ↔ v ≤ Gen.TAGGED_MAX_3) ∧ (Tagged.len v ≤ 4 ↔ v ≤ Gen.TAGGED_MAX_4) ∧
    (Tagged.len v ≤ 5 ↔ v ≤ Gen.TAGGED_MAX_5) ∧ (Tagged.len v ≤ 6 ↔ v ≤ Gen.TAGGED_MAX_6) ∧
    (Tagged.len v ≤ 7 ↔ v ≤ Gen.TAGGED_MAX_7) ∧ (Tagged.len v ≤ 8 ↔ v ≤ Gen.TAGGED_MAX_8) ∧
    (Tagged.len v ≤ 9 ↔ v ≤ Gen.TAGGED_MAX_9) := by
  simp only [Gen.TAGGED_MAX_1, Gen.TAGGED_MAX_2, Gen.TAGGED_MAX_3, Gen.TAGGED_MAX_4, Gen.TAGGED_MAX_5,
    Gen.TAGGED_MAX_6, Gen.TAGGED_MAX_7, Gen.TAGGED_MAX_8, Gen.TAGGED_MAX_9]
  have small : (Tagged.len v ≤ 1 ↔ v ≤ 240) ∧ (Tagged.len v ≤ 2 ↔ v ≤ 2287) ∧ (Tagged.len v ≤ 3 ↔ v ≤ 67823) := by
    rcases Tagged.shape v with ⟨_, hl, -⟩ | ⟨_, _, hl, -⟩ | ⟨_, _, hl, -⟩ | ⟨h, hl, -⟩
    · omega
    · omega
    · omega
    · have := Tagged.three_le_extLen h
      omega
  -- the maxima of the wide classes are 256^w - 1
  exact ⟨small.1, small.2.1, small.2.2,
    (Tagged.len_le_iff hv (k := 3) (by omega)).trans (by omega),
    (Tagged.len_le_iff hv (k := 4) (by omega)).trans (by omega),
    (Tagged.len_le_iff hv (k := 5) (by omega)).trans (by omega),
    (Tagged.len_le_iff hv (k := 6) (by omega)).trans (by omega),
    (Tagged.len_le_iff hv (k := 7) (by omega)).trans (by omega),
    (Tagged.len_le_iff hv (k := 8) (by omega)).trans (by omega)⟩

/-- level boundaries of the split families are the header constants -/
theorem split_constants :
    Gen.SPLIT_MAX_6 = 63 ∧ Gen.SPLIT_MAX_14 = 16446 ∧ Gen.SPLIT_6 = 0 ∧ Gen.SPLIT_14 = 64 ∧ Gen.SPLIT_VAR = 128 ∧
    Gen.SPLIT_FULL_MAX_6 = 63 ∧ Gen.SPLIT_FULL_MAX_14 = 16446 ∧ Gen.SPLIT_FULL_MAX_22 = 4210749 ∧
    Gen.SPLIT_FULL_VAR = 192 ∧
    Gen.SPLIT_FULL_NO_ZERO_MAX_6 = 64 ∧ Gen.SPLIT_FULL_NO_ZERO_MAX_14 = 16447 ∧
    Gen.SPLIT_FULL_NO_ZERO_MAX_22 = 4210750 ∧
    Gen.SPLIT_FULL_16_MAX_14 = 16383 ∧ Gen.SPLIT_FULL_16_MAX_22 = 4210686 ∧
    Gen.SPLIT_FULL_16_MAX_30 = 1077952509 := by decide

/-- maxima for 1–4 bytes (the README's columns) of the other families -/
theorem split_maxima (v : Nat) (hv : v < 2 ^ 64) :
    (Split.S.len v ≤ 1 ↔ v ≤ 63) ∧ (Split.S.len v ≤ 2 ↔ v ≤ 16701) ∧
    (Split.S.len v ≤ 3 ↔ v ≤ 81981) ∧ (Split.S.len v ≤ 4 ↔ v ≤ 16793661) := by
  have h2 := Split.varW_le_iff 16446 1 v 1 (by omega) (by omega)
  have h3 := Split.varW_le_iff 16446 1 v 2 (by omega) (by omega)
  have h4 := Split.varW_le_iff 16446 1 v 3 (by omega) (by omega)
  have hw := Split.le_varW 16446 1 v
  simp only [show (256 : Nat) ^ 1 = 256 by rfl, show (256 : Nat) ^ 2 = 65536 by rfl,
    show (256 : Nat) ^ 3 = 16777216 by rfl] at h2 h3 h4
  unfold Split.S.len
  simp only [Split.lenVar_eq]
  repeat' split
  all_goals omega

theorem sfull_maxima (v : Nat) (hv : v < 2 ^ 64) :
    (Split.F.len v ≤ 1 ↔ v ≤ 63) ∧ (Split.F.len v ≤ 2 ↔ v ≤ 16446) ∧
    (Split.F.len v ≤ 3 ↔ v ≤ 4276284) ∧ (Split.F.len v ≤ 4 ↔ v ≤ 20987964) ∧
    (Split.F.len v ≤ 4 ↔ v ≤ Gen.SPLIT_FULL_STORAGE_4) ∧ (v ≤ Gen.SPLIT_FULL_STORAGE_3 → Split.F.len v ≤ 3) := by
  have h3 := Split.varW_le_iff 4210749 2 v 2 (by omega) (by omega)
  have h4 := Split.varW_le_iff 4210749 2 v 3 (by omega) (by omega)
  have hw := Split.le_varW 4210749 2 v
  simp only [show (256 : Nat) ^ 2 = 65536 by rfl, show (256 : Nat) ^ 3 = 16777216 by rfl] at h3 h4
  simp only [Gen.SPLIT_FULL_STORAGE_4, Gen.SPLIT_FULL_STORAGE_3]
  unfold Split.F.len
  simp only [Split.lenVar_eq]
  repeat' split
  all_goals omega

theorem snz_maxima (v : Nat) (hv : v < 2 ^ 64) :
    (Split.NZ.len v ≤ 1 ↔ v ≤ 64) ∧ (Split.NZ.len v ≤ 2 ↔ v ≤ 16447) ∧
    (Split.NZ.len v ≤ 3 ↔ v ≤ 4276285) ∧ (Split.NZ.len v ≤ 4 ↔ v ≤ 20987965) ∧
    (Split.NZ.len v ≤ 4 ↔ v ≤ Gen.SPLIT_FULL_NO_ZERO_STORAGE_4) := by
  have h3 := Split.varW_le_iff 4210750 2 v 2 (by omega) (by omega)
  have h4 := Split.varW_le_iff 4210750 2 v 3 (by omega) (by omega)
  have hw := Split.le_varW 4210750 2 v
  simp only [show (256 : Nat) ^ 2 = 65536 by rfl, show (256 : Nat) ^ 3 = 16777216 by rfl] at h3 h4
  simp only [Gen.SPLIT_FULL_NO_ZERO_STORAGE_4]
  unfold Split.NZ.len
  simp only [Split.lenVar_eq]
  repeat' split
  all_goals omega

theorem s16_maxima (v : Nat) (hv : v < 2 ^ 64) :
    (¬ Split.S16.len v ≤ 1) ∧ (Split.S16.len v ≤ 2 ↔ v ≤ 16383) ∧
    (Split.S16.len v ≤ 3 ↔ v ≤ 4210686) ∧ (Split.S16.len v ≤ 4 ↔ v ≤ 1077952509) := by
  have hw := Split.le_varW 1077952509 4 v
  unfold Split.S16.len
  simp only [Split.lenVar_eq]
  repeat' split
  all_goals omega

theorem chained_maxima (v : Nat) :
    (Chained.len v ≤ 1 ↔ v ≤ 127) ∧ (Chained.len v ≤ 2 ↔ v ≤ 16383) ∧
    (Chained.len v ≤ 3 ↔ v ≤ 2097151) ∧ (Chained.len v ≤ 4 ↔ v ≤ 268435455) := by
  have h1 := len7_le_iff (u := v) (j := 1) (by omega)
  have h2 := len7_le_iff (u := v) (j := 2) (by omega)
  have h3 := len7_le_iff (u := v) (j := 3) (by omega)
  have h4 := len7_le_iff (u := v) (j := 4) (by omega)
  simp only [show (128 : Nat) ^ 1 = 128 by rfl, show (128 : Nat) ^ 2 = 16384 by rfl,
    show (128 : Nat) ^ 3 = 2097152 by rfl, show (128 : Nat) ^ 4 = 268435456 by rfl] at h1 h2 h3 h4
  unfold Chained.len
  split <;> omega

theorem ext_maxima (v : Nat) :
    (extLen v ≤ 1 ↔ v ≤ 255) ∧ (extLen v ≤ 2 ↔ v ≤ 65535) ∧
    (extLen v ≤ 3 ↔ v ≤ 16777215) ∧ (extLen v ≤ 4 ↔ v ≤ 4294967295) := by
  have h1 := extLen_le_iff (u := v) (j := 1) (by omega)
  have h2 := extLen_le_iff (u := v) (j := 2) (by omega)
  have h3 := extLen_le_iff (u := v) (j := 3) (by omega)
  have h4 := extLen_le_iff (u := v) (j := 4) (by omega)
  simp only [show (256 : Nat) ^ 1 = 256 by rfl, show (256 : Nat) ^ 2 = 65536 by rfl,
    show (256 : Nat) ^ 3 = 16777216 by rfl, show (256 : Nat) ^ 4 = 4294967296 by rfl] at h1 h2 h3 h4
  omega

/-- the README's two capacity tables, cell by cell, are the maxima proved above
    (`Gen.readmeTable*` is re-parsed from README.md on every run) -/
theorem readme_table_agrees :
    Gen.readmeTable1 = [
      ("Tagged", "first byte", [some 240, some 2287, some 67823, some 16777215]),
      ("Split", "first byte", [some 63, some 16701, some 81981, some 16793661]),
      ("Split Full", "first byte", [some 63, some 16446, some 4276284, some 20987964]),
      ("Split Full No Zero", "first byte", [some 64, some 16447, some 4276285, some 20987965]),
      ("Split Full 16", "first byte", [none, some 16383, some 4210686, some 1077952509]),
      ("Chained", "final flag bit", [some 127, some 16383, some 2097151, some 268435455]),
      ("External", "first byte", [none, some 255, some 65535, some 16777215]),
      ("External", "external metadata", [some 255, some 65535, some 16777215, some 4294967295])] ∧
    Gen.readmeTable2 = [
      ("Split", "first", [some 63, some 16446, none, none]),
      ("Split", "second", [none, some 16701, some 81981, some 16793661]),
      ("Split Full", "first", [some 63, some 16446, some 4210749, none]),
      ("Split Full", "second", [none, none, some 4276284, some 20987964]),
      ("Split Full No Zero", "first", [some 64, some 16447, some 4210750, none]),
      ("Split Full No Zero", "second", [none, none, some 4276285, some 20987965])] := by
  decide

/-- the documented zig-zag map `Spec.zigzag` (n ↦ 2n, −2n−1) in closed form on all of int64, and within 64 bits -/
theorem zigzag_def (n : Int) (hlo : -(2 ^ 63 : Int) ≤ n) (hhi : n < (2 ^ 63 : Int)) :
    Spec.zigzag n < 2 ^ 64 ∧ (0 ≤ n → Spec.zigzag n = 2 * n.toNat) ∧ (n < 0 → Spec.zigzag n = 2 * (-n).toNat - 1) := by
  unfold Spec.zigzag
  have h64 : (2 : Nat) ^ 64 = 18446744073709551616 := by decide
  have h63 : (2 : Int) ^ 63 = 9223372036854775808 := by decide
  rw [h63] at hlo hhi
  rw [h64]
  split <;> omega

/-- non-vacuity -/
example : Tagged.enc 2288 = [249, 0, 0] ∧ Spec.tagged 2288 = [249, 0, 0] := by decide
example : Spec.chained 16384 = [129, 128, 0] := by decide
example : Spec.leb128cap9 300 = [172, 2] := by decide



/-! ## byte-exactness of the C ITSELF (translation regenerated from src/varintTagged.c on every run) -/

/-- the bytes varintTaggedPut64 stores are the documented sqlite4 format's bytes, and varintTaggedLen is the
    documented length — for all 2^64 values -/
theorem c_tagged_spec_valid (x : Nat) (hx : x < 2 ^ 64) :
    (Varint.Gen.C.taggedPut64 x).2.map Prod.snd = Spec.tagged x ∧
    (Varint.Gen.C.taggedPut64 x).2.map Prod.fst = List.range (Spec.tagged x).length ∧
    Varint.Gen.C.taggedLen x = (Spec.tagged x).length := by
  obtain ⟨h1, h2, h3⟩ := Varint.Bridge.Tagged.taggedPut64_eq x hx
  have hs := tagged_enc_eq_spec x hx
  rw [h2, h3, Varint.Bridge.Tagged.taggedLen_eq x hx, ← hs, Tagged.enc_length]
  exact ⟨rfl, rfl, rfl⟩

/-! ## canonicity stated on the decoders: among ALL byte strings a reader accepts for a value, none is
    shorter than the encoder's output, and one of the same length IS the encoder's output — so the encoder
    emits the one shortest encoding of its family. (Readers also accept over-long spellings with leading zero
    groups; that is why the first statement is ≤.) -/

theorem tagged_unique_in_class (bs : List Nat) (v l : Nat) (hb : ∀ b ∈ bs, b < 256)
    (h : Tagged.get bs = .ok v l) (hl : l = Tagged.len v) : bs.take l = Tagged.enc v :=
  Tagged.get_canonical bs v l hb h hl

theorem chained_canonical (bs : List Nat) (v l : Nat) (hb : ∀ b ∈ bs, b < 256) (h : Chained.dec bs = some (v, l)) :
    Chained.len v ≤ l ∧ (l = Chained.len v → bs.take l = Chained.enc v) :=
  ⟨Chained.dec_len_le bs v l hb h, Chained.dec_canonical bs v l hb h⟩

theorem csimple_canonical (bs : List Nat) (v l : Nat) (hb : ∀ b ∈ bs, b < 256)
    (h : ChainedSimple.dec bs = some (v, l)) :
    ChainedSimple.len v ≤ l ∧ (l = ChainedSimple.len v → bs.take l = ChainedSimple.enc v) :=
  ⟨ChainedSimple.dec_len_le bs v l hb h, ChainedSimple.dec_canonical bs v l hb h⟩

/-- external (width out of band): a w-byte slice that reads as v has w ≥ the minimal width, is the encoder's
    slice when w is minimal -/
theorem external_canonical (bs : List Nat) (w v : Nat) (hb : ∀ b ∈ bs, b < 256) (hw : 1 ≤ w) :
    (External.get bs w = some v → extLen v ≤ w ∧ (w = extLen v → bs.take w = External.enc v)) ∧
    (ExternalBE.get bs w = some v → extLen v ≤ w ∧ (w = extLen v → bs.take w = ExternalBE.enc v)) :=
  ⟨fun h => ⟨External.get_len_le bs w v hb hw h, External.get_canonical bs w v hb h⟩,
   fun h => ⟨ExternalBE.get_len_le bs w v hb hw h, ExternalBE.get_canonical bs w v hb h⟩⟩

/-- external: the byte-slice ↦ value maps (either byte order) are injective at fixed width -/
theorem external_injective (a b : List Nat) (hlen : a.length = b.length)
    (ha : ∀ x ∈ a, x < 256) (hb : ∀ x ∈ b, x < 256) :
    (ofLe a = ofLe b → a = b) ∧ (ofBe a = ofBe b → a = b) :=
  ⟨fun h => ofLe_injective a b h hlen ha hb, fun h => ofBe_injective a b h hlen ha hb⟩

/-- the split families: the same two statements hold for every first byte the ENCODERS can produce. The
    side conditions exclude exactly the spellings the readers accept but no encoder emits: the reserved
    prefix / a var tag announcing a width below the family's minimum, the var-level spelling of the previous
    level's maximum, and var tags with the ignored bits 4–5 set (examples below). -/
theorem split_canonical (bs : List Nat) (v l : Nat) (hb : ∀ b ∈ bs, b < 256) :
    (Split.S.dec bs = some (v, l) →
      ((∀ b0 ∈ bs.head?, b0 < 192 ∧ b0 ≠ 128) → Split.S.len v ≤ l) ∧
      (bs.take 2 ≠ [129, 0] → l = Split.S.len v → bs.take l = Split.S.enc v)) ∧
    (Split.F.dec bs = some (v, l) →
      ((∀ b0 ∈ bs.head?, b0 < 192 ∨ 2 ≤ b0 % 16) → Split.F.len v ≤ l) ∧
      ((∀ b0 ∈ bs.head?, b0 < 208) → bs.take 3 ≠ [194, 0, 0] → l = Split.F.len v → bs.take l = Split.F.enc v)) ∧
    (Split.NZ.dec bs = some (v, l) →
      ((∀ b0 ∈ bs.head?, b0 < 192 ∨ 2 ≤ b0 % 16) → Split.NZ.len v ≤ l) ∧
      ((∀ b0 ∈ bs.head?, b0 < 208) → bs.take 3 ≠ [194, 0, 0] → l = Split.NZ.len v → bs.take l = Split.NZ.enc v)) ∧
    (Split.S16.dec bs = some (v, l) →
      ((∀ b0 ∈ bs.head?, b0 < 192 ∨ 4 ≤ b0 % 16) → Split.S16.len v ≤ l) ∧
      ((∀ b0 ∈ bs.head?, b0 < 208) → bs.take 4 ≠ [195, 0, 0, 0] → l = Split.S16.len v → bs.take l = Split.S16.enc v)) :=
  ⟨fun h => ⟨fun hw => Split.S.dec_len_le bs v l hb hw h, fun hx hl => Split.S.dec_canonical bs v l hb hx h hl⟩,
   fun h => ⟨fun hw => Split.F.full.dec_len_le bs v l hb hw h, fun h208 hx hl => Split.F.full.dec_canonical bs v l hb h208 hx h hl⟩,
   fun h => ⟨fun hw => Split.NZ.full.dec_len_le bs v l hb hw h, fun h208 hx hl => Split.NZ.full.dec_canonical bs v l hb h208 hx h hl⟩,
   fun h => ⟨fun hw => Split.S16.full.dec_len_le bs v l hb hw h, fun h208 hx hl => Split.S16.full.dec_canonical bs v l hb h208 hx h hl⟩⟩

/-- reader leniency (not produced by any encoder): an over-long chained spelling of 0; the var-level spelling
    of varintSplit's level-1 maximum next to the encoder's bytes -/
example : Chained.dec [0x80, 0x00] = some (0, 2) ∧ Chained.len 0 = 1 := by decide
example : Split.S.dec [129, 0] = some (16446, 2) ∧ Split.S.enc 16446 = [127, 255] := by decide

end Varint.Props.C04
