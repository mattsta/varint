import Varint.Bridge.Tagged
import Varint.Bridge.TaggedQ
import Varint.Lemmas.Lex
/-
  C05 — tagged varints sort bytewise (memcmp) in numeric order; prefix-free, so tuples sort too.
  `lexCmp` is the model of memcmp over the common length followed by the length comparison.
-/
namespace Varint.Props.C05
open Varint

/-- for all pairs of 64-bit values the byte order of the encodings is the numeric order,
    and equal values have identical bytes -/
theorem tagged_lex_eq_compare (a b : Nat) (ha : a < 2 ^ 64) (hb : b < 2 ^ 64) :
    lexCmp (Tagged.enc a) (Tagged.enc b) = compare a b := by
  rcases Nat.lt_trichotomy a b with h | h | h
  · have := Tagged.enc_lt_of_lt hb h [] []
    simp only [List.append_nil] at this
    rw [this, Nat.compare_eq_lt.mpr h]
  · subst h; rw [lexCmp_self, Nat.compare_eq_eq.mpr rfl]
  · have := Tagged.enc_lt_of_lt ha h [] []
    simp only [List.append_nil] at this
    rw [(lexCmp_swap _ _).mp this, Nat.compare_eq_gt.mpr h]

/-- prefix-freeness: two encodings, each followed by anything, give the same byte string only for equal values;
    in particular no encoding is a proper prefix of another value's encoding -/
theorem tagged_prefix_free (a b : Nat) (ha : a < 2 ^ 64) (hb : b < 2 ^ 64) (A B : List Nat)
    (h : Tagged.enc a ++ A = Tagged.enc b ++ B) : a = b := by
  rcases Nat.lt_trichotomy a b with hlt | heq | hgt
  · have h1 := Tagged.enc_lt_of_lt hb hlt A B
    rw [h, lexCmp_self] at h1; cases h1
  · exact heq
  · have h1 := Tagged.enc_lt_of_lt ha hgt B A
    rw [h, lexCmp_self] at h1; cases h1

/-- composite keys: concatenated tagged varints of two tuples compare as the tuples compare
    (lexicographically by value, a proper prefix tuple first), for tuples of any arity -/
theorem tagged_tuple_order (as bs : List Nat) (ha : ∀ a ∈ as, a < 2 ^ 64) (hb : ∀ b ∈ bs, b < 2 ^ 64) :
    lexCmp (as.flatMap Tagged.enc) (bs.flatMap Tagged.enc) = lexCmp as bs := by
  induction as generalizing bs with
  | nil =>
    cases bs with
    | nil => rfl
    | cons b bs =>
      simp only [List.flatMap_nil, List.flatMap_cons]
      cases he : Tagged.enc b with
      | nil => exact absurd he (Tagged.enc_ne_nil b)
      | cons x xs => simp [lexCmp]
  | cons a as ih =>
    cases bs with
    | nil =>
      simp only [List.flatMap_nil, List.flatMap_cons]
      cases he : Tagged.enc a with
      | nil => exact absurd he (Tagged.enc_ne_nil a)
      | cons x xs => simp [lexCmp]
    | cons b bs =>
      have ha0 := ha a (by simp)
      have hb0 := hb b (by simp)
      simp only [List.flatMap_cons]
      rcases Nat.lt_trichotomy a b with h | h | h
      · rw [Tagged.enc_lt_of_lt hb0 h, lexCmp_cons_lt h]
      · subst h
        rw [lexCmp_append_same, lexCmp_cons_same]
        exact ih bs (fun x hx => ha x (by simp [hx])) (fun x hx => hb x (by simp [hx]))
      · rw [(lexCmp_swap _ _).mp (Tagged.enc_lt_of_lt ha0 h _ _), lexCmp_cons_gt h]

/-- non-vacuity: adjacent values across a length boundary, and a pair differing in one payload byte -/
example : lexCmp (Tagged.enc 240) (Tagged.enc 241) = .lt := by decide
example : lexCmp (Tagged.enc 0x1ffffffff) (Tagged.enc 0x200000000) = .lt := by decide
example : lexCmp ([5, 67824].flatMap Tagged.enc) ([5, 67823].flatMap Tagged.enc) = .gt := by decide


/-- the same for the bytes the C stores (translation regenerated from src/varintTagged.c on every run):
    memcmp order of two varintTaggedPut64 outputs = numeric order -/
theorem c_tagged_lex_eq_compare (a b : Nat) (ha : a < 2 ^ 64) (hb : b < 2 ^ 64) :
    lexCmp ((Varint.Gen.C.taggedPut64 a).2.map Prod.snd) ((Varint.Gen.C.taggedPut64 b).2.map Prod.snd) = compare a b := by
  rw [(Varint.Bridge.Tagged.taggedPut64_eq a ha).2.1, (Varint.Bridge.Tagged.taggedPut64_eq b hb).2.1]
  exact tagged_lex_eq_compare a b ha hb

/-- **keys built with the public inline encoder** (`varintTaggedLenQuick` + `varintTaggedPut64FixedWidthQuick_`, both
    expanded from the CURRENT header with an argument of low operator precedence, `lo | hi`) are byte for byte the model's
    `Tagged.enc`, which is what `varintTaggedPut64` stores (`Bridge.Tagged.taggedPut64_eq`) — so they sort numerically as well (`c_tagged_lex_eq_compare`). A macro parameter used
    without parentheses breaks `taggedPutFixedQuick_eq`. -/
theorem c_tagged_quick_keys (lo hi : Nat) (h : lo ||| hi < 2 ^ 64) :
    Varint.Gen.C.taggedLenQuick (lo ||| hi) = Tagged.len (lo ||| hi) ∧
    (Varint.Gen.C.taggedPutFixedQuick lo hi (Varint.Gen.C.taggedLenQuick (lo ||| hi))).map Prod.snd =
      Tagged.enc (lo ||| hi) ∧
    (Varint.Gen.C.taggedPutFixedQuick lo hi (Varint.Gen.C.taggedLenQuick (lo ||| hi))).map Prod.fst =
      List.range (Tagged.len (lo ||| hi)) := by
  have hl := Varint.Bridge.TaggedQ.taggedLenQuick_eq (lo ||| hi) h
  have hf := Varint.Bridge.Tagged.taggedPut64FixedWidth_eq (lo ||| hi) (Tagged.len (lo ||| hi))
  rw [hl, Varint.Bridge.TaggedQ.taggedPutFixedQuick_eq, Tagged.encFixed_len _ h] at *
  refine ⟨rfl, hf.1, ?_⟩
  rw [hf.2.2, Tagged.enc_length]

end Varint.Props.C05
