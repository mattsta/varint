import Varint.Lemmas.BitmapIter
import Varint.Lemmas.Bitmap
/-
  C08 — the bitmap behaves as a set of 16-bit integers under any history.
  Abstract state: `mem s v := s.bits.testBit v`. The mathematical set is a predicate `Nat → Bool`.
-/
namespace Varint.Props.C08
open Varint Varint.Bitmap

/-- operations of a history (values are 16-bit) -/
inductive Op where
  | add (v : Nat)
  | remove (v : Nat)
  | clear
  | addMany (vs : List Nat)
  | removeRange (mn mx : Nat)

def Op.ok : Op → Prop
  | .add v => v < 65536
  | .remove v => v < 65536
  | .clear => True
  | .addMany vs => ∀ v ∈ vs, v < 65536
  | .removeRange _ mx => mx ≤ 65536

/-- the implementation model's step: new state and the call's change report (if it has one) -/
def step (s : St) : Op → St × Option Bool
  | .add v => ((add s v).1, some (add s v).2)
  | .remove v => ((remove s v).1, some (remove s v).2)
  | .clear => (clear s, none)
  | .addMany vs => (addMany s vs, none)
  | .removeRange mn mx => (removeRange s mn mx, none)

/-- the same operation on a mathematical set -/
def specStep (m : Nat → Bool) : Op → (Nat → Bool) × Option Bool
  | .add v => (fun w => m w || decide (v = w), some (!m v))
  | .remove v => (fun w => m w && !decide (v = w), some (m v))
  | .clear => (fun _ => false, none)
  | .addMany vs => (fun w => m w || decide (w ∈ vs), none)
  | .removeRange mn mx => (fun w => m w && !decide (mn ≤ w ∧ w < mx), none)

def mem (s : St) : Nat → Bool := fun w => s.bits.testBit w

theorem bitmap_inv_init : Inv init ∧ mem init = fun _ => false :=
  ⟨inv_init, funext fun w => Nat.zero_testBit w⟩

/-- one step refines the set, reports the change truthfully and keeps the invariant -/
theorem bitmap_step_refines (s : St) (op : Op) (hok : op.ok) (hi : Inv s) :
    mem (step s op).1 = (specStep (mem s) op).1 ∧ (step s op).2 = (specStep (mem s) op).2 ∧ Inv (step s op).1 := by
  cases op with
  | add v =>
    obtain ⟨hb, _, hr⟩ := add_eq s v
    exact ⟨funext fun w => (congrArg (Nat.testBit · w) hb).trans (testBit_setBit s.bits v w), congrArg some hr,
      inv_add hok hi⟩
  | remove v =>
    obtain ⟨hb, _, hr⟩ := remove_eq s v
    exact ⟨funext fun w => (congrArg (Nat.testBit · w) hb).trans (testBit_clearBit s.bits v w), congrArg some hr,
      inv_remove hok hi⟩
  | clear =>
    exact ⟨funext fun w => Nat.zero_testBit w, rfl, (countBelow_zero 65536).symm, fun w _ => Nat.zero_testBit w⟩
  | addMany vs =>
    obtain ⟨h1, h2⟩ := addMany_spec vs s hok hi
    exact ⟨funext h1, rfl, h2⟩
  | removeRange mn mx =>
    obtain ⟨h2, h1⟩ := removeRange_spec s mn mx hok hi
    exact ⟨funext fun w => (h1 w).trans (by rw [← Bool.decide_and]; rfl), rfl, h2⟩

def run (s : St) : List Op → St × List (Option Bool)
  | [] => (s, [])
  | op :: ops => let r := step s op; let rest := run r.1 ops; (rest.1, r.2 :: rest.2)

def specRun (m : Nat → Bool) : List Op → (Nat → Bool) × List (Option Bool)
  | [] => (m, [])
  | op :: ops => let r := specStep m op; let rest := specRun r.1 ops; (rest.1, r.2 :: rest.2)

/-- starting from the empty bitmap, after ANY finite history the membership answers, every change
    report along the way, and the cardinality counter equal those of the mathematical set -/
theorem bitmap_history_refines (ops : List Op) (hok : ∀ op ∈ ops, op.ok) :
    mem (run init ops).1 = (specRun (fun _ => false) ops).1 ∧
    (run init ops).2 = (specRun (fun _ => false) ops).2 ∧
    (run init ops).1.card = popCount (run init ops).1.bits ∧
    isEmpty (run init ops).1 = decide (popCount (run init ops).1.bits = 0) := by
  have key : ∀ (ops : List Op) (s : St) (m : Nat → Bool), (∀ op ∈ ops, op.ok) → Inv s → mem s = m →
      mem (run s ops).1 = (specRun m ops).1 ∧ (run s ops).2 = (specRun m ops).2 ∧ Inv (run s ops).1 := by
    intro ops
    induction ops with
    | nil => intro s m _ hi hm; exact ⟨hm, rfl, hi⟩
    | cons op ops ih =>
      intro s m hok hi hm
      obtain ⟨h1, h2, h3⟩ := bitmap_step_refines s op (hok op (by simp)) hi
      subst hm
      obtain ⟨r1, r2, r3⟩ := ih (step s op).1 _ (fun o ho => hok o (by simp [ho])) h3 h1
      exact ⟨r1, by simp only [run, specRun, r2, h2], r3⟩
  obtain ⟨k1, k2, k3⟩ := key ops init _ hok inv_init bitmap_inv_init.2
  refine ⟨k1, k2, k3.card_eq, ?_⟩
  simp only [isEmpty, k3.card_eq]
  cases h : popCount (run init ops).1.bits <;> simp

/-- which container currently holds the data is not observable: membership, counter and change
    reports of add/remove are the same for every container type -/
theorem bitmap_container_unobservable (s : St) (t : Ty) (v : Nat) :
    ((add { s with ty := t } v).1.bits = (add s v).1.bits ∧ (add { s with ty := t } v).1.card = (add s v).1.card ∧
      (add { s with ty := t } v).2 = (add s v).2) ∧
    ((remove { s with ty := t } v).1.bits = (remove s v).1.bits ∧
      (remove { s with ty := t } v).1.card = (remove s v).1.card ∧
      (remove { s with ty := t } v).2 = (remove s v).2) := by
  -- both sides are functions of `bits` and `card` alone
  obtain ⟨a1, a2, a3⟩ := add_eq { s with ty := t } v
  obtain ⟨b1, b2, b3⟩ := add_eq s v
  obtain ⟨c1, c2, c3⟩ := remove_eq { s with ty := t } v
  obtain ⟨d1, d2, d3⟩ := remove_eq s v
  exact ⟨⟨a1.trans b1.symm, a2.trans b2.symm, a3.trans b3.symm⟩,
    ⟨c1.trans d1.symm, c2.trans d2.symm, c3.trans d3.symm⟩⟩

/-- iteration and conversion to an array yield exactly the members (each 16-bit value whose bit is set) -/
theorem bitmap_members_spec (s : St) (x : Nat) : x ∈ members s ↔ x < 65536 ∧ s.bits.testBit x = true :=
  mem_members s x

/-- **set algebra.** Built the way the C builds them (Clone/Create + Add of the iterated members), the four
    operations are union, intersection, symmetric difference and difference of the member sets, and their
    results satisfy the invariant (counter = number of members) -/
theorem bitmap_or_spec (a b : St) (ha : Inv a) (hb : Inv b) :
    (∀ w, (Bitmap.or a b).bits.testBit w = (a.bits.testBit w || b.bits.testBit w)) ∧ Inv (Bitmap.or a b) :=
  addMany_members a b ha hb.small

theorem bitmap_and_spec (a b : St) (ha : Inv a) :
    (∀ w, (Bitmap.and a b).bits.testBit w = (a.bits.testBit w && b.bits.testBit w)) ∧ Inv (Bitmap.and a b) := by
  obtain ⟨h1, h2⟩ := addMany_init_members (a.bits &&& b.bits) fun w hw => by
    rw [Nat.testBit_and, ha.small w hw]; rfl
  exact ⟨fun w => by rw [Bitmap.and, h1, Nat.testBit_and], h2⟩

theorem bitmap_xor_spec (a b : St) (ha : Inv a) (hb : Inv b) :
    (∀ w, (Bitmap.xor a b).bits.testBit w = (a.bits.testBit w ^^ b.bits.testBit w)) ∧ Inv (Bitmap.xor a b) := by
  obtain ⟨h1, h2⟩ := addMany_init_members (a.bits ^^^ b.bits) fun w hw => by
    rw [Nat.testBit_xor, ha.small w hw, hb.small w hw]; rfl
  exact ⟨fun w => by rw [Bitmap.xor, h1, Nat.testBit_xor], h2⟩

theorem bitmap_andnot_spec (a b : St) (ha : Inv a) :
    (∀ w, (Bitmap.andNot a b).bits.testBit w = (a.bits.testBit w && !b.bits.testBit w)) ∧
      Inv (Bitmap.andNot a b) := by
  obtain ⟨h1, h2⟩ := addMany_init_members (a.bits ^^^ (a.bits &&& b.bits)) fun w hw => by
    rw [Nat.testBit_xor, Nat.testBit_and, ha.small w hw]; rfl
  refine ⟨fun w => ?_, h2⟩
  rw [Bitmap.andNot, Bitmap.andNot.clearAll, h1, Nat.testBit_xor, Nat.testBit_and]
  cases a.bits.testBit w <;> cases b.bits.testBit w <;> rfl

/-! ## iteration order, export size, add-range, serialisation -/

/-- iteration / array export is strictly ascending (hence duplicate free) — for EVERY state -/
theorem bitmap_iteration_ascending (s : St) : List.Pairwise (· < ·) (members s) ∧ (members s).Nodup :=
  ⟨members_sorted s, members_nodup s⟩

/-- the exported array has exactly `cardinality` entries -/
theorem bitmap_export_length (s : St) (hi : Inv s) : (members s).length = s.card :=
  members_length s hi

/-- add-range (half-open), both the element-wise path and the single-run fast path on an empty bitmap -/
theorem bitmap_addRange_spec (s : St) (mn mx : Nat) (hmx : mx ≤ 65536) (hi : Inv s) :
    Inv (addRange s mn mx) ∧
    ∀ w, (addRange s mn mx).bits.testBit w = (s.bits.testBit w || (decide (mn ≤ w) && decide (w < mx))) :=
  addRange_spec s mn mx hmx hi

/-- serialise then deserialise (the decoder of C14's model, `Bounded.bitmapDec`, mapped back to a state)
    restores type, counter and member set — array and bitmap containers, and the single run that the
    add-range fast path creates (its length is a uint16_t in the C, so < 65536) -/
theorem bitmap_serialise_roundtrip (s : St) (hi : Inv s) (hty : s.ty ≠ .runs) : decodeSt (encode s) = some s :=
  decode_encode s hi hty

theorem bitmap_serialise_roundtrip_run (s : St) (mn mx : Nat) (hi : Inv s) (hc : s.card = 0)
    (hbig : mx - mn > arrayMax) (hmx : mx ≤ 65536) (hnf : mx - mn < 65536) :
    decodeSt (encode (addRange s mn mx)) = some (addRange s mn mx) :=
  decode_encode_addRange_fast s mn mx hi hc hbig hmx hnf

/-- non-vacuity: a short history through the model -/
example : (run init [.add 7, .add 7, .remove 7, .remove 8]).2 = [some true, some false, some true, some false] := by
  decide

end Varint.Props.C08
