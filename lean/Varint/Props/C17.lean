import Varint.Model.Sched
import Varint.Gen.Statics
/-
  C17 — stateless codecs are safe to call concurrently — PARTIAL.
  Theorem (`schedule_independence`): for ANY number of threads, ANY schedule and ANY step functions that read
  only their footprint and write only what they own, with pairwise disjoint writable regions that nobody else
  reads (shared inputs are read-only, outputs private): what a thread computes — its local state and every
  byte it can see, in particular its whole output — is exactly what it computes running alone. Together with
  `no_shared_statics` (the library has no writable static storage, regenerated from the object files every
  run) this is the logic of the property. That the compiled codecs really touch nothing outside their
  arguments (the premise) and the absence of data races under the real memory model are facts about the
  binary: observed by the ThreadSanitizer run of harness/vh_threads.c (16 threads, shared inputs).
-/
namespace Varint.Props.C17
open Varint.Sched

variable {σ : Type}

theorem agree_refl (T : Nat → Thr σ) (t : Nat) (c : Cfg σ) : Agree T t c c := ⟨rfl, fun _ _ => rfl⟩

theorem agree_trans (T : Nat → Thr σ) (t : Nat) {a b c : Cfg σ} (h1 : Agree T t a b) (h2 : Agree T t b c) :
    Agree T t a c := ⟨h1.1.trans h2.1, fun x hx => (h1.2 x hx).trans (h2.2 x hx)⟩

theorem agree_symm (T : Nat → Thr σ) (t : Nat) {a b : Cfg σ} (h : Agree T t a b) : Agree T t b a :=
  ⟨h.1.symm, fun x hx => (h.2 x hx).symm⟩

/-- a step of the thread itself preserves "looks the same to it" -/
theorem step_agree (T : Nat → Thr σ) (t : Nat) (c c' : Cfg σ) (h : Agree T t c c') :
    Agree T t (stepT T c t) (stepT T c' t) := by
  have hs : (T t).step (c.loc t) c.mem = (T t).step (c'.loc t) c'.mem := by
    rw [h.1]; exact (T t).reads_foot _ _ _ h.2
  refine ⟨by simp [stepT, hs], ?_⟩
  intro a ha
  simp only [stepT, hs]
  cases hw : ((T t).step (c'.loc t) c'.mem).2 with
  | none => simpa [write] using h.2 a ha
  | some p =>
    obtain ⟨x, v⟩ := p
    simp only [write]
    by_cases hx : a = x
    · simp [hx]
    · simp [hx, h.2 a ha]

/-- a step of another thread is invisible -/
theorem other_agree (T : Nat → Thr σ) (hI : Independent T) (t u : Nat) (htu : t ≠ u) (c : Cfg σ) :
    Agree T t (stepT T c u) c := by
  refine ⟨by simp [stepT, htu], ?_⟩
  intro a ha
  simp only [stepT]
  cases hw : ((T u).step (c.loc u) c.mem).2 with
  | none => rfl
  | some p =>
    obtain ⟨x, v⟩ := p
    simp only [write]
    by_cases hx : a = x
    · subst hx
      have hst : (T u).step (c.loc u) c.mem = (((T u).step (c.loc u) c.mem).1, some (a, v)) := by
        rw [← hw]
      exact absurd ha (hI t u htu a ((T u).writes_owned _ _ _ _ _ hst))
    · simp [hx]

theorem solo_congr (T : Nat → Thr σ) (t n : Nat) (c c' : Cfg σ) (h : Agree T t c c') :
    Agree T t (solo T c t n) (solo T c' t n) := by
  induction n generalizing c c' with
  | zero => exact h
  | succ n ih => exact ih _ _ (step_agree T t c c' h)

/-- **Schedule independence.** Under every interleaving, thread `t` ends in the local state and sees the
    memory (its inputs and all of its own output) that it reaches running alone for as many steps as the
    schedule gave it — whatever the other threads do and however many there are. -/
theorem schedule_independence (T : Nat → Thr σ) (hI : Independent T) (t : Nat) (sched : List Nat) (c : Cfg σ) :
    Agree T t (run T c sched) (solo T c t (sched.count t)) := by
  induction sched generalizing c with
  | nil => exact agree_refl T t c
  | cons u s ih =>
    simp only [run]
    by_cases hu : u = t
    · subst hu
      rw [List.count_cons_self]
      exact ih (stepT T c u)
    · have hne : t ≠ u := fun e => hu e.symm
      rw [List.count_cons_of_ne hu]
      exact agree_trans T t (ih (stepT T c u)) (solo_congr T t _ _ _ (other_agree T hI t u hne c))

/-- corollary in the property's words: two schedules that give `t` the same number of steps give it the same
    result -/
theorem result_schedule_free (T : Nat → Thr σ) (hI : Independent T) (t : Nat) (s s' : List Nat) (c : Cfg σ)
    (h : s.count t = s'.count t) : Agree T t (run T c s) (run T c s') := by
  have h1 := schedule_independence T hI t s c
  have h2 := schedule_independence T hI t s' c
  rw [h] at h1
  exact agree_trans T t h1 (agree_symm T t h2)

/-- the library keeps no writable static storage (shared hidden state would falsify the premise) -/
theorem no_shared_statics : Varint.Gen.writableStatics = [] := by decide

/-- non-vacuity: a family of threads, thread `t` copying a shared cell (address 0) into its own cell `t + 1` -/
def copier (dst : Nat) : Thr Nat where
  step := fun s m => (s + 1, if s = 0 then some (dst, m 0) else none)
  foot := fun a => a = 0 ∨ a = dst
  owns := fun a => a = dst
  owns_foot := fun _ h => Or.inr h
  reads_foot := fun s m m' h => by simp [h 0 (Or.inl rfl)]
  writes_owned := fun s m s' a v h => by
    by_cases hs : s = 0
    · simp [hs] at h; exact h.2.1.symm
    · simp [hs] at h

example : Independent (fun t => copier (t + 1)) := by
  intro t u htu a ha hf
  simp only [copier] at ha hf
  rcases hf with h0 | h1 <;> omega

end Varint.Props.C17
