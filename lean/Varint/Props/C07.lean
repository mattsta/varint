import Varint.Lemmas.FloatDec
import Varint.Model.Float
/-
  C07 — float codec: full mode bit-exact, lossy modes within the stated error.
  A double is its IEEE-754 pattern b < 2^64: sign = b / 2^63, exponent field = b / 2^52 % 2048,
  fraction = b % 2^52; a normal value has significand m = fraction + 2^52 ∈ [2^52, 2^53).
  The first theorems are about what each value decodes to (`roundTripOne`); the array framing
  (flag/sign bitmaps, exponent sections, packed mantissas) is the last section (`float_array_roundtrip`,
  `float_array_full_exact`, `float_refuses_huge`).
-/
namespace Varint.Props.C07
open Varint Varint.Float

/-- FULL precision: every double — NaN payloads, infinities, signed zeros, subnormals, normals —
    is reproduced bit for bit -/
theorem float_full_exact (b : Nat) (hb : b < 2 ^ 64) : roundTripOne 0 b = b := by
  unfold roundTripOne
  split
  · rfl
  · rename_i hs
    have hexp : expField b ≠ 2047 ∧ expField b ≠ 0 := by
      simp [isSpecial] at hs; exact hs
    have hE := expField_lt b
    have hf := frac_lt b
    simp only [mantBits, reduce, compose, if_true]
    rw [if_neg (by omega), if_neg (by omega), if_neg (by omega)]
    have h4 : ((expField b : Int) - 1023 + 1023).toNat = expField b := by omega
    rw [h4, Nat.add_mod_right, Nat.mod_eq_of_lt hf]
    exact fields_eq b hb

/-- in every precision the special values (NaN, ±inf, ±0, subnormals) are reproduced exactly -/
theorem float_special_exact (p b : Nat) (h : isSpecial b = true) : roundTripOne p b = b := by
  unfold roundTripOne; rw [if_pos h]

/-- reduced precision: rounding to `mb` significand bits moves the significand by at most half a
    unit of the kept precision; on a carry the value becomes exactly 2^(e+1). Hence the rounded
    significand differs from the original by at most 2^-mb relative (the published bound); sign and overflow
    to infinity are in `float_compose_fields`. Stated on integers, about `reduce`:
    `m` original significand, `(e', t)` = stored exponent and mantissa field, `s = 53 - mb`. -/
theorem float_rel_error (p : Nat) (hp : p = 1 ∨ p = 2 ∨ p = 3) (b : Nat) (hb : b < 2 ^ 64)
    (hn : isSpecial b = false) :
    let mb := mantBits p
    let s := 53 - mb
    let m := frac b + 2 ^ 52
    let e : Int := (expField b : Int) - 1023
    let r := reduce mb b
    ((r.1 = e ∧ 2 ^ (mb - 1) ≤ r.2 ∧ r.2 < 2 ^ mb ∧
        (r.2 * 2 ^ s ≤ m + 2 ^ (s - 1) ∧ m ≤ r.2 * 2 ^ s + 2 ^ (s - 1))) ∨
     (r.1 = e + 1 ∧ r.2 = 2 ^ (mb - 1) ∧ 2 ^ 53 ≤ m + 2 ^ (s - 1))) ∧
    -- half a unit of the kept precision is at most m * 2^-mb
    2 ^ (s - 1) * 2 ^ mb ≤ m := by
  -- the rounding facts hold for every pattern; `hb` and `hn` only say which patterns `reduce` is applied to
  have _ := hb
  have _ := hn
  have hmb : 1 ≤ mantBits p ∧ mantBits p ≤ 51 := by
    rcases hp with rfl | rfl | rfl
    all_goals decide
  exact reduce_spec (mantBits p) hmb.1 hmb.2 b

/-- the reconstructed pattern has the original sign and (unless it overflows to infinity of that
    sign) the stored exponent and the expanded mantissa -/
theorem float_compose_fields (mb sign t : Nat) (e : Int) (hs : sign < 2) (hmb : mb < 52) (ht1 : 2 ^ (mb - 1) ≤ t)
    (ht : t < 2 ^ mb) (hmb1 : 1 ≤ mb) (he : -1022 ≤ e) (he2 : e ≤ 1024) :
    let c := compose mb sign e t
    signOf c = sign ∧
    (e ≤ 1023 → expField c = (e + 1023).toNat ∧ frac c + 2 ^ 52 = t * 2 ^ (53 - mb)) ∧
    (e = 1024 → expField c = 2047 ∧ frac c = 0) := by
  have hpos : 0 < 2 ^ (53 - mb) := Nat.pow_pos (by omega)
  have hexp : (2 : Nat) ^ (mb - 1) * 2 ^ (53 - mb) = 2 ^ 52 := by
    rw [← Nat.pow_add]; congr 1; omega
  have hexp2 : (2 : Nat) ^ mb * 2 ^ (53 - mb) = 2 ^ 53 := by
    rw [← Nat.pow_add]; congr 1; omega
  have hlo : 2 ^ 52 ≤ t * 2 ^ (53 - mb) := by
    rw [← hexp]; exact Nat.mul_le_mul_right _ ht1
  have hhi : t * 2 ^ (53 - mb) < 2 ^ 53 := by
    rw [← hexp2]; exact Nat.mul_lt_mul_of_pos_right ht hpos
  intro c
  have hne : ¬ mb = 52 := by omega
  have hcdef : c = compose mb sign e t := rfl
  clear_value c
  have hc : c = (if e + 1023 ≥ 2047 then sign * 2 ^ 63 + 2047 * 2 ^ 52
      else sign * 2 ^ 63 + (e + 1023).toNat * 2 ^ 52 + t * 2 ^ (53 - mb) % 2 ^ 52) := by
    rw [hcdef]
    unfold compose
    simp only [if_neg hne]
    have h1 : ¬ (e = 0 ∧ t * 2 ^ (53 - mb) = 0) := by omega
    have h2 : ¬ (e + 1023 ≤ 0) := by omega
    rw [if_neg h1, if_neg h2]
  generalize t * 2 ^ (53 - mb) = X at *
  by_cases hbig : e + 1023 ≥ 2047
  · rw [if_pos hbig] at hc
    obtain ⟨h1, h2, h3⟩ := fields_mk sign 2047 0 hs (by omega) (by omega)
    rw [Nat.add_zero] at h1 h2 h3
    rw [hc]
    exact ⟨h1, fun h => by omega, fun _ => ⟨h2, h3⟩⟩
  · rw [if_neg hbig] at hc
    obtain ⟨h1, h2, h3⟩ := fields_mk sign (e + 1023).toNat (X % 2 ^ 52) hs (by omega) (Nat.mod_lt _ (by decide))
    rw [hc]
    refine ⟨h1, fun _ => ⟨h2, ?_⟩, fun h => by omega⟩
    rw [h3]
    omega

/-- automatic precision selection: for every requested error that is a positive finite double,
    either FULL is chosen or the chosen mode's published bound 2^-mantBits does not exceed the
    request (positive doubles order like their bit patterns) -/
theorem float_auto_bound (e : Nat) (hpos : 0 < e) (hfin : e < 2047 * 2 ^ 52) :
    selectPrecision e = 0 ∨ boundBits (selectPrecision e) ≤ e := by
  unfold selectPrecision
  simp only []
  split
  · left; rfl
  · rename_i h1
    split
    · right; simp only [boundBits, mantBits] at *; omega
    · split
      · right; simp only [boundBits, mantBits] at *; omega
      · right; simp only [boundBits, mantBits] at *; omega

/-- non-vacuity: the value whose rounding carries (1.9999999999, the D16 witness) decodes to 2.0 -/
example : roundTripOne 1 0x3FFFFFFFFFFF2108 = 0x4000000000000000 := by decide
example : isSpecial 0x7FF8000000000001 = true ∧ isSpecial 1 = true ∧ isSpecial 0x3FF0000000000000 = false := by decide
example : selectPrecision 0x3E112E0BE826D695 = 0 := by decide   -- 1e-9 → FULL


/-! ## array framing: decoding the encoder's bytes yields, in order, what each value decodes to — every
    precision byte, every exponent mode, every non-empty array the C accepts (count·8 must not overflow size_t,
    i.e. count < 2^61; at or above that the decoder refuses: `float_refuses_huge`). The decoder consumes exactly the bytes
    written; whatever follows them is irrelevant. -/

theorem float_array_roundtrip (p mode : Nat) (hm : mode ≤ 2) (ds : List Nat) (hne : ds ≠ [])
    (hd : ∀ d ∈ ds, d < 2 ^ 64) (hlen : ds.length < 2 ^ 61) (rest : List Nat) :
    decFull (enc p mode ds ++ rest) ds.length = some (ds.map (roundTripOne p), rest) :=
  decFull_enc p mode hm ds hne hd hlen rest

/-- in FULL precision the whole array is reproduced bit for bit (NaN payloads, infinities, signed zeros,
    subnormals included), in all three exponent modes -/
theorem float_array_full_exact (mode : Nat) (hm : mode ≤ 2) (ds : List Nat) (hne : ds ≠ [])
    (hd : ∀ d ∈ ds, d < 2 ^ 64) (hlen : ds.length < 2 ^ 61) (rest : List Nat) :
    dec (enc 0 mode ds ++ rest) ds.length = some ds := by
  rw [dec_enc 0 mode hm ds hne hd hlen rest]
  congr 1
  have : ∀ (l : List Nat), (∀ d ∈ l, d < 2 ^ 64) → l.map (roundTripOne 0) = l := by
    intro l
    induction l with
    | nil => intro _; rfl
    | cons a t ih =>
      intro h
      rw [List.map_cons, float_full_exact a (h a (by simp)), ih (fun d hd' => h d (by simp [hd']))]
  exact this ds hd

theorem float_refuses_huge (bs : List Nat) (count : Nat) (h : 2 ^ 61 ≤ count) : dec bs count = none :=
  dec_refuses_huge bs count h

end Varint.Props.C07
