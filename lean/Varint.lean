import Varint.Model.Bytes
import Varint.Model.Tagged
import Varint.Model.External
import Varint.Model.Chained
import Varint.Model.Split
import Varint.Lemmas.Bytes
import Varint.Lemmas.Bits
import Varint.Lemmas.List
import Varint.Lemmas.Tagged
import Varint.Lemmas.External
import Varint.Lemmas.Chained
import Varint.Lemmas.Split
import Varint.Lemmas.Lex
import Varint.Lemmas.Add
import Varint.Model.FloatDec
import Varint.Lemmas.PackedSeq
import Varint.Lemmas.BP128
import Varint.Lemmas.BitmapIter
import Varint.Lemmas.Fuel
import Varint.Lemmas.Canon
import Varint.Lemmas.FloatDec
import Varint.Bridge.Tagged
import Varint.Bridge.Sizes
import Varint.Model.AdaptiveDec
import Varint.Model.ChainedUnrolled
import Varint.Lemmas.Adaptive
import Varint.Lemmas.ChainedUnrolled
import Varint.Gen.CChained
import Varint.Bridge.Chained
import Varint.Props.C01
import Varint.Props.C05
import Varint.Props.C12
import Varint.Spec.Scalar
import Varint.Lemmas.Spec
import Varint.Lemmas.Mono
import Varint.Props.C04
import Varint.Model.Delta
import Varint.Model.FOR
import Varint.Model.PFOR
import Varint.Model.Group
import Varint.Model.Dict
import Varint.Model.RLE
import Varint.Model.Bits
import Varint.Model.Elias
import Varint.Model.BP128
import Varint.Lemmas.Delta
import Varint.Lemmas.RLE
import Varint.Lemmas.FOR
import Varint.Lemmas.Group
import Varint.Lemmas.RLEH
import Varint.Lemmas.PFOR
import Varint.Lemmas.DimBits
import Varint.Lemmas.Elias
import Varint.Lemmas.Dict
import Varint.Props.C02
import Varint.Props.C03
import Varint.Props.C13
import Varint.Props.C16
import Varint.Model.BitField
import Varint.Model.Bitstream
import Varint.Lemmas.BitField
import Varint.Lemmas.Bitstream
import Varint.Props.C11
import Varint.Model.Packed
import Varint.Lemmas.Packed
import Varint.Props.C09
import Varint.Model.Bitmap
import Varint.Lemmas.Bitmap
import Varint.Props.C08
import Varint.Model.Dimension
import Varint.Lemmas.Dimension
import Varint.Props.C10
import Varint.Model.Float
import Varint.Props.C07
import Varint.Model.Adaptive
import Varint.Props.C06
import Varint.Model.Bounded
import Varint.Lemmas.Bounded
import Varint.Props.C14
import Varint.Model.Alloc
import Varint.Props.C18
import Varint.Props.C15
import Varint.Model.Sched
import Varint.Props.C17
